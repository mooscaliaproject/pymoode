/-
C08  The reported optimum is feasible, non-dominated and complete.
A member of a later front has a dominator in the front before it, and dominators of survivors survive (C04): among
the ranked survivors `rank == 0` ⇔ non-dominated (⇐ is "complete"). Then `_set_optimum` case by case, over identities
and an abstract `rank`: no theorem joins it to `rankOf`, which ranks positions.
-/
import PymoodeProofs.C06

set_option linter.unusedSectionVars false

namespace Pymoode
namespace C08
open C03 C04

variable {α : Type} [Field α] [LinearOrder α] [IsStrictOrderedRing α]

theorem later_front_has_dominator {dom : Nat → Nat → Bool} {m nStop : Nat} {fronts : List (List Nat)}
    (h : IsFronts dom m nStop fronts) (k : Nat) (hk : k + 1 < fronts.length) (x : Nat)
    (hx : x ∈ fronts[k + 1]) : ∃ j ∈ fronts[k], j < m ∧ dom j x = true := by
  have hk0 : k < fronts.length := Nat.lt_of_succ_lt hk
  -- `x` is in none of the fronts `0 … k`, which hold all its dominators
  obtain ⟨hne, hdom⟩ := peel_getElem h hk hx
  rw [mem_earlier_succ hk0, not_or] at hne
  -- were none of them in front `k`, all would be in the fronts before it, and `x` would be in front `k`
  by_contra hcon
  refine hne.2 ((mem_front_iff h hk0 (h.valid _ (List.getElem_mem hk) x hx)).mpr ⟨hne.1, fun j hj hd => ?_⟩)
  exact ((mem_earlier_succ hk0).mp (hdom j hj hd)).resolve_right fun hjk => hcon ⟨j, hjk, hj, hd⟩

/-- **rank 0 ⇔ non-dominated within the new population** (for ranked survivors): the members the
algorithm reports (`rank == 0`, written by *this* generation's survival) are exactly the survivors
no survivor dominates — every dominator of a later-front survivor has itself survived. `hdm`: `dom` is a function on all of
`Nat`, the contract speaks of `j < m` only. -/
theorem rank0_iff_nondominated {dom : Nat → Nat → Bool} {m nStop : Nat} (nS : Nat)
    (fs : List (List Nat × List Nat)) (h : IsFronts dom m nStop (fs.map Prod.fst)) (hs : SortedOk fs)
    (hdm : ∀ j x, dom j x = true → j < m)
    (x : Nat) (hx : x ∈ frontLoop nS fs []) :
    rankOf (fs.map Prod.fst) x = some 0 ↔ ∀ y ∈ frontLoop nS fs [], dom y x = false := by
  obtain ⟨l, hl, hxl⟩ := List.mem_flatten.mp (frontLoop_subset nS fs hs x hx)
  obtain ⟨kx, hkx, rfl⟩ := List.mem_iff_getElem.mp hl
  rw [rankOf_eq h kx hkx x hxl]
  constructor
  · intro h0 y _
    obtain rfl := Option.some.inj h0
    -- a dominator would sit in a front before the first
    refine Bool.eq_false_iff.mpr fun hd => ?_
    obtain ⟨k', hlt, -⟩ := dom_rank_lt h 0 hkx x y hxl (hdm y x hd) hd
    exact Nat.not_lt_zero _ hlt
  · intro hnd
    cases kx with
    | zero => rfl
    | succ k =>
      -- the dominator in front `k` survives with `x`
      obtain ⟨j, -, hjm, hd⟩ := later_front_has_dominator h k hkx x hxl
      rw [hnd j (no_discarded_dominates_survivor fs h hs x j hx hjm hd)] at hd
      exact absurd hd Bool.false_ne_true

theorem argminCv_eq_none {pop : List (IndM α)} : argminCv pop = none → pop = [] := by
  fun_cases argminCv pop with
  | case1 => exact fun _ => rfl
  | case2 => exact fun h => nomatch h
  | case3 => exact fun h => nomatch h
  | case4 => exact fun h => nomatch h

/-- `np.argmin(CV)`: a member of least total violation -/
theorem argminCv_spec : ∀ (pop : List (IndM α)) (b : IndM α), argminCv pop = some b →
    b ∈ pop ∧ ∀ q ∈ pop, b.cv ≤ q.cv := by
  intro pop
  fun_induction argminCv pop with
  | case1 => exact fun b h => nomatch h
  | case2 a t ht ih =>
    rintro b ⟨⟩
    rw [argminCv_eq_none ht]
    exact ⟨List.mem_singleton_self _, fun q hq => (congrArg IndM.cv (List.mem_singleton.mp hq)).ge⟩
  | case3 a t c ht hlt ih =>
    rintro b ⟨⟩
    exact ⟨List.mem_cons_of_mem _ (ih c ht).1, List.forall_mem_cons.mpr ⟨hlt.le, (ih c ht).2⟩⟩
  | case4 a t c ht hge ih =>
    rintro b ⟨⟩
    exact ⟨List.mem_cons_self,
      List.forall_mem_cons.mpr ⟨le_rfl, fun q hq => (not_lt.mp hge).trans ((ih c ht).2 q hq)⟩⟩

theorem setOptimum_of_feasible {pop : List (IndM α)} (rank : Nat → Option Nat)
    (hf : ∃ i ∈ pop, i.feas = true) :
    setOptimum pop rank = pop.filter (fun i => rank i.id == some 0) := by
  rw [setOptimum, if_pos (List.any_eq_true.mpr hf)]

theorem setOptimum_of_infeasible {pop : List (IndM α)} (rank : Nat → Option Nat)
    (hnf : ∀ i ∈ pop, i.feas = false) : setOptimum pop rank = (argminCv pop).toList := by
  rw [setOptimum, if_neg]
  rintro hc
  obtain ⟨i, hi, hf⟩ := List.any_eq_true.mp hc
  exact Bool.false_ne_true ((hnf i hi).symm.trans hf)

/-- when no member is feasible the optimum is the single member of least constraint violation -/
theorem opt_infeasible (pop : List (IndM α)) (rank : Nat → Option Nat) (hnf : ∀ i ∈ pop, i.feas = false)
    (hne : pop ≠ []) :
    ∃ b, setOptimum pop rank = [b] ∧ b ∈ pop ∧ ∀ q ∈ pop, b.cv ≤ q.cv := by
  obtain ⟨b, hb⟩ := Option.ne_none_iff_exists'.mp fun h => hne (argminCv_eq_none h)
  exact ⟨b, by rw [setOptimum_of_infeasible rank hnf, hb]; rfl, argminCv_spec _ b hb⟩

/-- when some member is feasible only members carrying rank 0 are reported; with the
rank-and-crowding survivals infeasible members carry no rank from this generation, so every
reported member is feasible -/
theorem opt_feasible_only (pop : List (IndM α)) (rank : Nat → Option Nat)
    (hf : ∃ i ∈ pop, i.feas = true) (hinf : ∀ i ∈ pop, i.feas = false → rank i.id = none) :
    ∀ o ∈ setOptimum pop rank, o ∈ pop ∧ o.feas = true ∧ rank o.id = some 0 := by
  intro o ho
  rw [setOptimum_of_feasible rank hf, List.mem_filter, beq_iff_eq] at ho
  refine ⟨ho.1, ?_, ho.2⟩
  by_contra hc
  rw [hinf o ho.1 (Bool.eq_false_iff.mpr hc)] at ho
  exact nomatch ho.2

/-- if the head alone carries rank 0 (DE: `rank` = position in the sorted population) and some member is feasible
(`hf`, so `_set_optimum` filters by rank), the reported optimum is the head alone -/
theorem de_opt_single (b : IndM α) (t : List (IndM α)) (hf : ∃ i ∈ b :: t, i.feas = true)
    (rank : Nat → Option Nat) (hb : rank b.id = some 0) (ht : ∀ i ∈ t, rank i.id ≠ some 0) :
    setOptimum (b :: t) rank = [b] := by
  rw [setOptimum_of_feasible rank hf, List.filter_cons_of_pos (by rw [hb]; rfl),
    List.filter_eq_nil_iff.mpr fun a ha => mt beq_iff_eq.mp (ht a ha)]

end C08
end Pymoode
