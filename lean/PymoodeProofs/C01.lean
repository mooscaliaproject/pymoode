/-
C01  Offspring never leave the problem's box bounds.
The offspring coordinate is `trialCoord m x (repair1 s ⟨xl, xu, x0, mutant x0 ts, rl, ru⟩)`:
the scale factors, jitter, number of differences, parents in the differences, CR and the
crossover mask are all universally quantified and unconstrained.
-/
import PymoodeModel.Repair
import PymoodeModel.Mutation
import PymoodeModel.Crossover
import PymoodeProofs.Lib.Affine
import PymoodeProofs.C12

set_option linter.unusedSectionVars false

namespace Pymoode
namespace C01

variable {α : Type} [Field α] [LinearOrder α] [IsStrictOrderedRing α]

theorem repairLow_in_bounds (s : RepairKind) (xl xu xb r : α) (hb : xl ≤ xu)
    (h1 : xl ≤ xb) (h2 : xb ≤ xu) (hr0 : 0 ≤ r) (hr1 : r < 1) :
    xl ≤ repairLow s xl xu xb r ∧ repairLow s xl xu xb r ≤ xu := by
  cases s <;> simp only [repairLow]
  · exact ⟨le_lerp h1 hr0, (lerp_le h1 hr1.le).trans h2⟩
  · rw [div_eq_inv_mul] -- midway is bounce-back with the draw `1/2`
    exact ⟨le_lerp h1 (inv_nonneg.2 zero_le_two), (lerp_le h1 two_inv_lt_one.le).trans h2⟩
  · exact lerp_mem hb hr0 hr1.le
  · exact ⟨le_rfl, hb⟩

theorem repairUp_in_bounds (s : RepairKind) (xl xu xb r : α) (hb : xl ≤ xu)
    (h1 : xl ≤ xb) (h2 : xb ≤ xu) (hr0 : 0 ≤ r) (hr1 : r < 1) :
    xl ≤ repairUp s xl xu xb r ∧ repairUp s xl xu xb r ≤ xu := by
  cases s <;> simp only [repairUp]
  · exact ⟨h1.trans (le_lerpRev h2 hr1.le), lerpRev_le h2 hr0⟩
  · rw [div_eq_inv_mul]
    exact ⟨h1.trans (le_lerpRev h2 two_inv_lt_one.le), lerpRev_le h2 (inv_nonneg.2 zero_le_two)⟩
  · exact lerpRev_mem hb hr0 hr1.le
  · exact ⟨hb, le_rfl⟩

/-- the second pass leaves the value written by the first alone as soon as that value is not above `xu` -/
theorem repair1_cases (s : RepairKind) (c : RCoord α) (h : repairLow s c.xl c.xu c.xb c.rl ≤ c.xu) :
    (c.v < c.xl ∧ repair1 s c = repairLow s c.xl c.xu c.xb c.rl) ∨
    (c.xu < c.v ∧ repair1 s c = repairUp s c.xl c.xu c.xb c.ru) ∨
    (c.xl ≤ c.v ∧ c.v ≤ c.xu ∧ repair1 s c = c.v) := by
  unfold repair1 upPass lowPass
  by_cases hl : c.v < c.xl
  · rw [if_pos hl, if_neg h.not_gt]
    exact .inl ⟨hl, rfl⟩
  · rw [if_neg hl]
    by_cases hu : c.xu < c.v
    · rw [if_pos hu]
      exact .inr (.inl ⟨hu, rfl⟩)
    · rw [if_neg hu]
      exact .inr (.inr ⟨not_lt.1 hl, not_lt.1 hu, rfl⟩)

/-- Every repaired coordinate lies in `[xl, xu]`, whatever the mutant value `v` was
(zero-width ranges `xl = xu` included). -/
theorem repair1_in_bounds (s : RepairKind) (c : RCoord α) (hb : c.xl ≤ c.xu)
    (h1 : c.xl ≤ c.xb) (h2 : c.xb ≤ c.xu)
    (hl0 : 0 ≤ c.rl) (hl1 : c.rl < 1) (hu0 : 0 ≤ c.ru) (hu1 : c.ru < 1) :
    c.xl ≤ repair1 s c ∧ repair1 s c ≤ c.xu := by
  have hlow := repairLow_in_bounds s c.xl c.xu c.xb c.rl hb h1 h2 hl0 hl1
  rcases repair1_cases s c hlow.2 with ⟨_, h⟩ | ⟨_, h⟩ | ⟨hl, hu, h⟩ <;> rw [h]
  · exact hlow
  · exact repairUp_in_bounds s c.xl c.xu c.xb c.ru hb h1 h2 hu0 hu1
  · exact ⟨hl, hu⟩

theorem repairAll_in_bounds (s : RepairKind) (cs : List (RCoord α))
    (hpre : ∀ c ∈ cs, c.xl ≤ c.xu ∧ c.xl ≤ c.xb ∧ c.xb ≤ c.xu ∧ 0 ≤ c.rl ∧ c.rl < 1 ∧ 0 ≤ c.ru ∧ c.ru < 1)
    (i : Nat) (h : i < cs.length) :
    cs[i].xl ≤ (repairAll s cs)[i]'(by simpa [repairAll] using h) ∧
    (repairAll s cs)[i]'(by simpa [repairAll] using h) ≤ cs[i].xu := by
  obtain ⟨a, b, c, d, e, f, g⟩ := hpre cs[i] (List.getElem_mem h)
  simp only [repairAll, List.getElem_map]
  exact repair1_in_bounds s cs[i] a b c d e f g

/-- one coordinate of one offspring of the whole DE pipeline -/
def offspringCoord (s : RepairKind) (m : Bool) (xl xu x x0 rl ru : α) (ts : List (DiffTerm α)) : α :=
  trialCoord m x (repair1 s { xl := xl, xu := xu, xb := x0, v := mutant x0 ts, rl := rl, ru := ru })

/-- **C01**: target coordinate `x` and base coordinate `x0` in `[xl, xu]`, uniform draws in
`[0,1)` ⇒ the offspring coordinate is in `[xl, xu]`; for every repair strategy, every list of
scaled differences (any number, any `F`, any jitter, any parents) and every crossover mask. -/
theorem offspring_in_bounds (s : RepairKind) (m : Bool) (xl xu x x0 rl ru : α) (ts : List (DiffTerm α))
    (hx : xl ≤ x ∧ x ≤ xu) (hx0 : xl ≤ x0 ∧ x0 ≤ xu)
    (hl : 0 ≤ rl ∧ rl < 1) (hu : 0 ≤ ru ∧ ru < 1) :
    xl ≤ offspringCoord s m xl xu x x0 rl ru ts ∧ offspringCoord s m xl xu x x0 rl ru ts ≤ xu := by
  cases m
  · exact hx
  · exact repair1_in_bounds s ⟨xl, xu, x0, mutant x0 ts, rl, ru⟩ (hx.1.trans hx.2) hx0.1 hx0.2 hl.1 hl.2 hu.1 hu.2

theorem trialRow_in_bounds (xl xu : α) :
    ∀ (ms : List Bool) (xs vs : List α),
      (∀ x ∈ xs, xl ≤ x ∧ x ≤ xu) → (∀ v ∈ vs, xl ≤ v ∧ v ≤ xu) →
      ∀ u ∈ trialRow ms xs vs, xl ≤ u ∧ u ≤ xu :=
  fun ms xs vs hx hv u hu => (C12.mem_trialRow ms xs vs u hu).elim (hx u) (hv u)

/-- the hypotheses of `offspring_in_bounds` at a zero-width variable (`xl = x = xu = 3`) and the draw `1/2` -/
example : ((3:α) ≤ 3 ∧ (3:α) ≤ 3) ∧ ((0:α) ≤ 1/2 ∧ (1/2:α) < 1) :=
  ⟨⟨le_rfl, le_rfl⟩, one_half_pos.le, one_half_lt_one⟩

end C01
end Pymoode
