/-
C13  Crowding metrics are safe, well-formed and match their definitions.   — PARTIAL —

FULL STATEMENT (kept visible): for every non-dominated front and every n_remove each metric
returns normally, touches no memory outside its arrays, gives one non-negative non-NaN value per
point, infinite at a min-holder and a max-holder of every non-constant objective, leaves the
caller's array alone, and equals the published definitions on tie-free fronts.

PROVED HERE: well-formedness of the crowding distance and its infinite ends by sorted position (`cdSorted_ends_top`;
by point: `cdObj_extreme_holders` in `Metrics/Definitions.lean`, where the pcd and ce definitions follow);
well-formedness and extremes for the mnn / 2nn pruning *definition* (which is, line by line, the pure-Python engine).
The compiled kernels are the subject of `Pcd/` and `Mnn/`: memory safety and refinement of the definitions under
hypotheses whose negations are the known findings F2, F3 (pcd) and F9 (mnn; F4 apart); outside them both are decided per
input by executing the checked-index transcription (`Kernel.lean`) and by the correspondence run.

`mnnScratch` is `scratchArr` of `Lib/Prune.lean` with `C15.cMnn` at the live points; every fact about entries of the
array comes through that equation.
-/
import PymoodeProofs.Lib.List
import PymoodeProofs.Lib.Ext
import PymoodeProofs.Lib.Prune
import PymoodeProofs.Lib.StableSort

set_option linter.unusedSectionVars false

namespace Pymoode

namespace C15
variable {α : Type} [Field α] [LinearOrder α] [IsStrictOrderedRing α] [Inhabited α]

/-- crowding of point `i` within the live set, from scratch (the value `mnnScratch` writes) -/
def cMnn (x : List (List α)) (mNb n : Nat) (live : List Nat) (i : Nat) : Ext α :=
  nnProduct ((List.range n).map fun j =>
    if live.contains j then Ext.fin (sqDist (x.getD i []) (x.getD j [])) else Ext.top) mNb

theorem mnnScratch_eq_scratchArr (x : List (List α)) (live : List Nat) (mNb : Nat) (ex : List Nat) (n : Nat)
    (old : List (Ext α)) : mnnScratch x live mNb ex n old = scratchArr ex live n (cMnn x mNb n live) old := by
  unfold mnnScratch scratchArr cMnn
  simp only [List.contains_iff_mem]

end C15

namespace C13

variable {α : Type} [Field α] [LinearOrder α] [IsStrictOrderedRing α] [Inhabited α]

/-- a crowding value is well-formed: `+inf`, or a finite non-negative number (`Ext` has no NaN) -/
def WF : Ext α → Prop
  | Ext.top => True
  | Ext.fin a => 0 ≤ a

theorem WF_top : WF (Ext.top : Ext α) := trivial

theorem WF_zero : WF (Ext.fin (0 : α)) := le_refl (0 : α)

theorem WF_add {a b : Ext α} (ha : WF a) (hb : WF b) : WF (Ext.add a b) :=
  match a, b, ha, hb with
  | .fin _, .fin _, ha, hb => add_nonneg ha hb
  | .fin _, .top, _, _ => trivial
  | .top, _, _, _ => trivial

theorem WF_div {a : Ext α} (ha : WF a) (c : α) (hc : 0 < c) : WF (Ext.mapFin (· / c) a) :=
  match a, ha with
  | .fin _, ha => div_nonneg ha hc.le
  | .top, _ => trivial

/-! ### sorted columns and the stable argsort: a sorted permutation of the points -/

theorem getD_mono {s : List α} (hs : s.Pairwise (· ≤ ·)) {p q : Nat} (hpq : p ≤ q) (hq : q < s.length) :
    s.getD p default ≤ s.getD q default := by
  rw [List.getD_eq_getElem _ _ (hpq.trans_lt hq), List.getD_eq_getElem _ _ hq]
  exact hs.sortedLE.getElem_le_getElem_of_le hpq

theorem gap_nonneg {s : List α} (hs : s.Pairwise (· ≤ ·)) {p q : Nat} (hpq : p ≤ q) (hq : q < s.length) :
    0 ≤ s.getD q default - s.getD p default :=
  sub_nonneg.mpr (getD_mono hs hpq hq)

theorem argsort_sorted (col : List α) :
    ((argsortStable col).map fun i => col.getD i default).Pairwise (· ≤ ·) := by
  rw [argsortStable_eq, List.pairwise_map]
  exact (sortedLive_lex _ _ List.pairwise_lt_range).imp fun h => (leBy_iff (fun i => col.getD i default) _ _).mp h.1

theorem argsort_perm (col : List α) : (argsortStable col).Perm (List.range col.length) :=
  List.mergeSort_perm _ _

theorem argsort_length (col : List α) : (argsortStable col).length = col.length := by
  rw [(argsort_perm col).length_eq, List.length_range]

theorem argsort_mem (col : List α) {i : Nat} : i ∈ argsortStable col ↔ i < col.length := by
  rw [(argsort_perm col).mem_iff, List.mem_range]

theorem argsort_nodup (col : List α) : (argsortStable col).Nodup :=
  (argsort_perm col).nodup_iff.mpr List.nodup_range

theorem argsort_getD_lt (col : List α) {p : Nat} (hp : p < col.length) : (argsortStable col).getD p 0 < col.length :=
  (argsort_mem col).mp (getD_mem (by rwa [argsort_length]))

theorem sorted_getD (col : List α) {p : Nat} (hp : p < col.length) :
    ((argsortStable col).map fun i => col.getD i default).getD p default =
      col.getD ((argsortStable col).getD p 0) default := by
  have hl : p < (argsortStable col).length := by rwa [argsort_length]
  rw [getD_map_of_lt _ _ _ hl, List.getD_eq_getElem _ _ hl]

theorem argsort_getD_le (col : List α) {p q : Nat} (hpq : p ≤ q) (hq : q < col.length) :
    col.getD ((argsortStable col).getD p 0) default ≤ col.getD ((argsortStable col).getD q 0) default := by
  rw [← sorted_getD col (hpq.trans_lt hq), ← sorted_getD col hq]
  exact getD_mono (argsort_sorted col) hpq (by rwa [List.length_map, argsort_length])

theorem argsort_idxOf (col : List α) {t : Nat} (ht : t < col.length) :
    (argsortStable col).idxOf t < col.length ∧ (argsortStable col).getD ((argsortStable col).idxOf t) 0 = t := by
  have hm := (argsort_mem col).mpr ht
  exact ⟨argsort_length col ▸ List.idxOf_lt_length_of_mem hm, getD_idxOf hm⟩

/-! ### crowding distance -/

/-- `cdSorted` entry by entry (`lo`, `hi` of the definition are the first and the last entry) -/
theorem cdSorted_eq_map (s : List α) : cdSorted s = (List.range s.length).map fun p =>
    if s.getD 0 default < s.getD (s.length - 1) default then
      if p = 0 ∨ p + 1 = s.length then Ext.top
      else Ext.fin ((s.getD p default - s.getD (p - 1) default) / (s.getD (s.length - 1) default - s.getD 0 default) +
        (s.getD (p + 1) default - s.getD p default) / (s.getD (s.length - 1) default - s.getD 0 default))
    else Ext.fin 0 := by
  by_cases h : s = []
  · subst h; rfl
  · simp only [cdSorted, head?_eq_some_getD h default, getLast?_eq_some_getD h default]
    split
    · rfl
    · rw [List.map_const', List.map_const', List.length_range]

theorem cdSorted_wellformed (s : List α) (hs : s.Pairwise (· ≤ ·)) : ∀ e ∈ cdSorted s, WF e := by
  rw [cdSorted_eq_map]
  refine List.forall_mem_map.mpr fun p hp => ?_
  have hp := List.mem_range.mp hp
  split_ifs with hlt hend
  · trivial
  · have hnorm := (sub_pos.mpr hlt).le
    exact add_nonneg (div_nonneg (gap_nonneg hs (Nat.sub_le p 1) hp) hnorm)
      (div_nonneg (gap_nonneg hs (Nat.le_succ p) (by omega)) hnorm)
  · exact WF_zero

theorem cdSorted_length (s : List α) : (cdSorted s).length = s.length := by
  rw [cdSorted_eq_map, List.length_map, List.length_range]

/-- **cd, one non-constant objective**: the two ends of the sorted order — a point holding the
minimum and a point holding the maximum — are infinite -/
theorem cdSorted_ends_top (s : List α) (lo hi : α) (hh : s.head? = some lo) (hl : s.getLast? = some hi)
    (hlt : lo < hi) :
    (cdSorted s).getD 0 (Ext.fin 0) = Ext.top ∧ (cdSorted s).getD (s.length - 1) (Ext.fin 0) = Ext.top := by
  have hne : s ≠ [] := by rintro rfl; cases hh
  have hpos := List.length_pos_iff.mpr hne
  obtain rfl := Option.some.inj ((head?_eq_some_getD hne default).symm.trans hh)
  obtain rfl := Option.some.inj ((getLast?_eq_some_getD hne default).symm.trans hl)
  rw [cdSorted_eq_map]
  constructor
  · rw [getD_map_range _ _ hpos, if_pos hlt, if_pos (Or.inl rfl)]
  · rw [getD_map_range _ _ (Nat.sub_one_lt hpos.ne'), if_pos hlt, if_pos (Or.inr (Nat.sub_add_cancel hpos))]

theorem cdObj_getD (col : List α) (d : Ext α) {i : Nat} (hi : i < col.length) :
    (cdObj col).getD i d =
      (cdSorted ((argsortStable col).map fun i => col.getD i default)).getD ((argsortStable col).idxOf i) (Ext.fin 0) :=
  getD_map_range _ d hi

theorem cdObj_wellformed (col : List α) : ∀ e ∈ cdObj col, WF e :=
  List.forall_mem_map.mpr fun _ _ => getD_of_forall (cdSorted_wellformed _ (argsort_sorted col)) WF_zero _

theorem sumExt_length (rows : List (List (Ext α))) (n : Nat) : (sumExt rows n).length = n := by
  rw [sumExt, List.length_map, List.length_range]

theorem sumExt_getD (rows : List (List (Ext α))) (d : Ext α) {n i : Nat} (hi : i < n) :
    (sumExt rows n).getD i d = rows.foldl (fun acc r => Ext.add acc (r.getD i (Ext.fin 0))) (Ext.fin 0) :=
  getD_map_range _ d hi

theorem sumExt_wellformed (rows : List (List (Ext α))) (n : Nat)
    (h : ∀ r ∈ rows, ∀ e ∈ r, WF e) : ∀ e ∈ sumExt rows n, WF e :=
  List.forall_mem_map.mpr fun i _ => List.foldlRecOn (motive := WF) rows _ WF_zero fun _ hacc r hr =>
    WF_add hacc (getD_of_forall (h r hr) WF_zero i)

theorem crowdingDistance_wellformed (f : List (List α)) (nObj : Nat) (nObjS : α) (hpos : 0 < nObjS) :
    (crowdingDistance f nObj nObjS).length = f.length ∧ ∀ e ∈ crowdingDistance f nObj nObjS, WF e := by
  refine ⟨by rw [crowdingDistance, List.length_map, sumExt_length], List.forall_mem_map.mpr fun e he => ?_⟩
  exact WF_div (sumExt_wellformed _ _ (List.forall_mem_map.mpr fun _ _ => cdObj_wellformed _) e he) nObjS hpos

/-! ### the pruning definitions (= the pure-Python engine) -/

theorem sqDist_nonneg (a b : List α) : 0 ≤ sqDist a b := by
  rw [sqDist, ← List.map_uncurry_zip_eq_zipWith]
  refine List.foldlRecOn (motive := (0 ≤ ·)) _ _ le_rfl fun _ hacc e he => ?_
  obtain ⟨xy, -, rfl⟩ := List.mem_map.mp he
  exact add_nonneg hacc (mul_self_nonneg _)

theorem sqDist_comm (a b : List α) : sqDist a b = sqDist b a := by
  rw [sqDist, sqDist, List.zipWith_comm]
  congr 2
  funext x y
  rw [← neg_sub x y, neg_mul_neg]

theorem sqDist_self (a : List α) : sqDist a a = 0 := by
  rw [sqDist, List.zipWith_self]
  induction a with
  | nil => rfl
  | cons x t ih => rw [List.map_cons, List.foldl_cons, sub_self, mul_zero, add_zero]; exact ih

/-- the step of `nnProduct`'s fold: the product, with `+inf` absorbing -/
def extMul (a b : Ext α) : Ext α :=
  match a, b with
  | Ext.fin a, Ext.fin b => Ext.fin (a * b)
  | _, _ => Ext.top

theorem nnProduct_eq (row : List (Ext α)) (mNb : Nat) : nnProduct row mNb =
    if (((row.mergeSort extLe).drop 1).take mNb).length < mNb then Ext.top
    else (((row.mergeSort extLe).drop 1).take mNb).foldl extMul (Ext.fin 1) := rfl

theorem WF_mul {a b : Ext α} (ha : WF a) (hb : WF b) : WF (extMul a b) :=
  match a, b, ha, hb with
  | .fin _, .fin _, ha, hb => mul_nonneg ha hb
  | .fin _, .top, _, _ => trivial
  | .top, _, _, _ => trivial

theorem mem_of_mem_nearest {row : List (Ext α)} {mNb : Nat} {e : Ext α}
    (he : e ∈ ((row.mergeSort extLe).drop 1).take mNb) : e ∈ row :=
  (List.mergeSort_perm row extLe).subset (List.mem_of_mem_drop (List.mem_of_mem_take he))

theorem nnProduct_wellformed (row : List (Ext α)) (mNb : Nat) (h : ∀ e ∈ row, WF e) :
    WF (nnProduct row mNb) := by
  rw [nnProduct_eq]
  split_ifs
  · trivial
  · exact List.foldlRecOn (motive := WF) _ extMul (zero_le_one' α) fun acc hacc e he =>
      WF_mul hacc (h e (mem_of_mem_nearest he))

theorem distRow_wellformed (a : List α) (x : List (List α)) (live : List Nat) (n : Nat) :
    ∀ e ∈ (List.range n).map fun j => if live.contains j then Ext.fin (sqDist a (x.getD j [])) else Ext.top,
      WF e := by
  refine List.forall_mem_map.mpr fun j _ => ?_
  split_ifs
  · exact sqDist_nonneg _ _
  · trivial

/-- **mnn / 2nn definition, one evaluation**: well-formed values, provided the values that the removed points
keep were well-formed -/
theorem mnnScratch_wellformed (x : List (List α)) (live : List Nat) (mNb : Nat) (ex : List Nat) (n : Nat)
    (old : List (Ext α)) (hold : ∀ e ∈ old, WF e) :
    ∀ e ∈ mnnScratch x live mNb ex n old, WF e :=
  C15.mnnScratch_eq_scratchArr x live mNb ex n old ▸
    scratchArr_forall WF_top (fun _ _ => nnProduct_wellformed _ _ (distRow_wellformed _ x live n)) hold

theorem mnnScratch_extremes_top (x : List (List α)) (live : List Nat) (mNb : Nat) (ex : List Nat) (n : Nat)
    (old : List (Ext α)) (i : Nat) (hi : i < n) (hex : i ∈ ex) :
    (mnnScratch x live mNb ex n old).getD i (Ext.fin 0) = Ext.top :=
  C15.mnnScratch_eq_scratchArr x live mNb ex n old ▸ scratchArr_getD_ex hi hex _

/-- `C15.pruneLive_preserves` for a property of the value array alone -/
theorem pruneLoop_preserves (P : List (Ext α) → Prop) (recompute : List Nat → List (Ext α) → List (Ext α))
    (hrec : ∀ lv d, P d → P (recompute lv d)) :
    ∀ (k : Nat) (live : List Nat) (d : List (Ext α)), P d → P (pruneLoop recompute k live d) :=
  fun k live d h => C15.pruneLive_snd recompute k live d ▸
    C15.pruneLive_preserves recompute (fun _ d => P d) (fun _ _ _ h _ => hrec _ _ h) k live d h

/-- `calc_mnn` on a front with no more than `mNb` points: `+inf` everywhere -/
theorem mnnFallback_of_le (f : List (List α)) (nObj : Nat) (nRemove : Int) (twonn : Bool)
    (hshort : f.length ≤ (if twonn then 2 else nObj)) :
    mnnFallback f nObj nRemove twonn = f.map fun _ => Ext.top :=
  if_pos hshort

/-- … and with more: the loop, started from a first evaluation on all points -/
theorem mnnFallback_eq (f : List (List α)) (nObj : Nat) (nRemove : Int) (twonn : Bool)
    (hbig : (if twonn then 2 else nObj) < f.length) :
    mnnFallback f nObj nRemove twonn =
      pruneLoop (fun lv old => mnnScratch (normalizeCols f nObj) lv (if twonn then 2 else nObj) (extremesFirst f nObj) f.length old)
        (clampRemove nRemove f.length nObj - 1).toNat (List.range f.length)
        (mnnScratch (normalizeCols f nObj) (List.range f.length) (if twonn then 2 else nObj) (extremesFirst f nObj) f.length
          (f.map fun _ => Ext.top)) :=
  if_neg (not_le.mpr hbig)

/-- for properties of the value array alone (`hstep` sees neither the live set nor the normalised front); the others
go through `C15.pruneLive_preserves`, as `C15.pruneLoop_inv` does -/
theorem mnnFallback_induction (P : List (Ext α) → Prop) (f : List (List α)) (nObj : Nat) (nRemove : Int)
    (twonn : Bool) (htop : P (f.map fun _ => Ext.top))
    (hstep : ∀ x lv mNb d, P d → P (mnnScratch x lv mNb (extremesFirst f nObj) f.length d)) :
    P (mnnFallback f nObj nRemove twonn) := by
  rcases Nat.lt_or_ge (if twonn then 2 else nObj) f.length with hbig | hshort
  · rw [mnnFallback_eq f nObj nRemove twonn hbig]
    exact pruneLoop_preserves P _ (fun lv d hd => hstep _ lv _ d hd) _ _ _ (hstep _ _ _ _ htop)
  · rw [mnnFallback_of_le f nObj nRemove twonn hshort]
    exact htop

theorem WF_map_top {β : Type} (f : List β) : ∀ e ∈ f.map fun _ => (Ext.top : Ext α), WF e :=
  List.forall_mem_map.mpr fun _ _ => WF_top

/-- **mnn / 2nn (definition = pure-Python engine), any number of removals**: every value is well-formed -/
theorem mnnFallback_wellformed (f : List (List α)) (nObj : Nat) (nRemove : Int) (twonn : Bool) :
    ∀ e ∈ mnnFallback f nObj nRemove twonn, WF e :=
  mnnFallback_induction (fun d => ∀ e ∈ d, WF e) f nObj nRemove twonn (WF_map_top f)
    fun x lv mNb d hd => mnnScratch_wellformed x lv mNb _ _ d hd

/-- … and every extreme (first arg-min / arg-max of each objective) is infinite -/
theorem mnnFallback_extremes_top (f : List (List α)) (nObj : Nat) (nRemove : Int) (twonn : Bool)
    (i : Nat) (hi : i < f.length) (hex : i ∈ extremesFirst f nObj) :
    (mnnFallback f nObj nRemove twonn).getD i (Ext.fin 0) = Ext.top :=
  mnnFallback_induction (fun d => d.getD i (Ext.fin 0) = Ext.top) f nObj nRemove twonn
    (getD_map_of_lt (fun _ => Ext.top) f _ hi) fun x lv mNb d _ => mnnScratch_extremes_top x lv mNb _ _ d i hi hex

/-! ### `np.argmin` / `np.argmax`: the first index holding the extreme value -/

/-- "`r` is the first index holding the minimum of `col`" -/
def FirstMin (col : List α) (r : Nat) : Prop :=
  r < col.length ∧ (∀ k, k < col.length → col.getD r default ≤ col.getD k default) ∧
    (∀ k, k < r → col.getD r default < col.getD k default)

/-- … the maximum -/
def FirstMax (col : List α) (r : Nat) : Prop :=
  r < col.length ∧ (∀ k, k < col.length → col.getD k default ≤ col.getD r default) ∧
    (∀ k, k < r → col.getD k default < col.getD r default)

theorem FirstMin.unique {col : List α} {a b : Nat} (ha : FirstMin col a) (hb : FirstMin col b) : a = b := by
  rcases Nat.lt_trichotomy a b with h | h | h
  · exact absurd (hb.2.2 a h) (not_lt.mpr (ha.2.1 b hb.1))
  · exact h
  · exact absurd (ha.2.2 b h) (not_lt.mpr (hb.2.1 a ha.1))

section Scan
variable {β : Type} (lt : β → β → Prop) [DecidableRel lt]

/-- "`r` is the first index of `l` whose entry has no entry `lt`-below it" -/
def FirstBy (d : β) (l : List β) (r : Nat) : Prop :=
  r < l.length ∧ (∀ k, k < l.length → ¬ lt (l.getD k d) (l.getD r d)) ∧ ∀ k, k < r → lt (l.getD r d) (l.getD k d)

/-- A left-to-right scan that replaces its candidate when the entry read is `lt`-below it, `lt` a strict weak
order. The scan is given by its two equations, so that `argminFirst.go` (`<`: `np.argmin`, `c_get_argmin`) and
`argmaxFirst.go` (`>`: `np.argmax`, `c_get_argmax`) are both instances. Invariant: `bi` is the `FirstBy` index of
the `i` entries read so far; `m` entries are left. -/
theorem scan_first (go : β → Nat → Nat → List β → Nat) (go_nil : ∀ b bi i, go b bi i [] = bi)
    (go_cons : ∀ b bi i x xs, go b bi i (x :: xs) = if lt x b then go x i (i + 1) xs else go b bi (i + 1) xs)
    (irrefl : ∀ a, ¬ lt a a) (trans : ∀ a b c, lt a b → lt b c → lt a c)
    (cotrans : ∀ a b c, lt a b → lt c b ∨ lt a c) (d : β) (full : List β) :
    ∀ (m i bi : Nat), i + m = full.length → bi < i →
      (∀ k, k < i → ¬ lt (full.getD k d) (full.getD bi d)) → (∀ k, k < bi → lt (full.getD bi d) (full.getD k d)) →
      FirstBy lt d full (go (full.getD bi d) bi i (full.drop i)) := by
  intro m
  induction m with
  | zero =>
    intro i bi hm hbi hall hfirst
    rw [List.drop_eq_nil_of_le (by omega), go_nil]
    exact ⟨by omega, fun k hk => hall k (by omega), hfirst⟩
  | succ m ih =>
    intro i bi hm hbi hall hfirst
    have hi : i < full.length := by omega
    rw [List.drop_eq_getElem_cons hi, go_cons, ← List.getD_eq_getElem full d hi]
    split
    · next hlt =>
      refine ih (i + 1) i (by omega) (by omega) ?_ ?_
      · intro k hk
        rcases Nat.lt_succ_iff_lt_or_eq.mp hk with h | rfl
        · exact fun hki => hall k h (trans _ _ _ hki hlt)
        · exact irrefl _
      · -- the new candidate is below the old one, and no earlier entry is: it is below every earlier entry
        exact fun k hk => (cotrans _ _ (full.getD k d) hlt).resolve_left (hall k hk)
    · next hge =>
      refine ih (i + 1) bi (by omega) (by omega) ?_ hfirst
      intro k hk
      rcases Nat.lt_succ_iff_lt_or_eq.mp hk with h | rfl
      · exact hall k h
      · exact hge

/-- the scan as `argminFirst` / `argmaxFirst` start it: candidate `0`, one entry read -/
theorem scan_first_cons (go : β → Nat → Nat → List β → Nat) (go_nil : ∀ b bi i, go b bi i [] = bi)
    (go_cons : ∀ b bi i x xs, go b bi i (x :: xs) = if lt x b then go x i (i + 1) xs else go b bi (i + 1) xs)
    (irrefl : ∀ a, ¬ lt a a) (trans : ∀ a b c, lt a b → lt b c → lt a c)
    (cotrans : ∀ a b c, lt a b → lt c b ∨ lt a c) (d a : β) (t : List β) :
    FirstBy lt d (a :: t) (go a 0 1 t) :=
  scan_first lt go go_nil go_cons irrefl trans cotrans d (a :: t) t.length 1 0 (Nat.add_comm _ _) Nat.one_pos
    (fun _ hk => Nat.lt_one_iff.mp hk ▸ irrefl _) fun _ hk => absurd hk (Nat.not_lt_zero _)

end Scan

theorem argminFirst_firstMin (col : List α) (hne : col ≠ []) : FirstMin col (argminFirst col) := by
  obtain ⟨a, t, rfl⟩ := List.exists_cons_of_ne_nil hne
  obtain ⟨h1, h2, h3⟩ := scan_first_cons (fun x b : α => x < b) argminFirst.go (fun _ _ _ => rfl)
    (fun _ _ _ _ _ => rfl) lt_irrefl (fun _ _ _ => lt_trans) (fun _ _ c h => h.lt_or_gt c) default a t
  exact ⟨h1, fun k hk => not_lt.mp (h2 k hk), h3⟩

theorem argmaxFirst_firstMax (col : List α) (hne : col ≠ []) : FirstMax col (argmaxFirst col) := by
  obtain ⟨a, t, rfl⟩ := List.exists_cons_of_ne_nil hne
  obtain ⟨h1, h2, h3⟩ := scan_first_cons (fun x b : α => b < x) argmaxFirst.go (fun _ _ _ => rfl)
    (fun _ _ _ _ _ => rfl) lt_irrefl (fun _ _ _ h1 h2 => lt_trans h2 h1) (fun _ _ c h => (h.lt_or_gt c).symm) default a t
  exact ⟨h1, fun k hk => not_lt.mp (h2 k hk), h3⟩

theorem argminFirst_spec (col : List α) (k : Nat) (hk : k < col.length) :
    col.getD (argminFirst col) default ≤ col.getD k default :=
  (argminFirst_firstMin col (List.ne_nil_of_length_pos (Nat.zero_lt_of_lt hk))).2.1 k hk

end C13
end Pymoode
