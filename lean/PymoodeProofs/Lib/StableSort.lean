/-
Stable sorting of index lists. First, for an antisymmetric comparison the sorted list is determined by its parts
(`mergeSort_eq_append`). Then: `argsortStable` and the live columns of the pruning kernels are merge sorts of an
ascending list of indices by a key; such a sort is the unique permutation sorted for the lexicographic (key, index)
order (`mergeSort_lex`, `lex_unique`). Everything the proofs need about stable sorting follows from that: it commutes
with filtering, its head is the first holder of the minimum, its last entry the holder of a maximum attained once.
-/
import PymoodeModel.Metrics.Basic
import PymoodeProofs.Lib.List
import Mathlib.Algebra.Order.Field.Basic
import Mathlib.Data.List.Sort

set_option linter.unusedSectionVars false

namespace Pymoode

/-- `mergeSort_eq_append_of_iff` for a comparison taken as its own relation -/
theorem mergeSort_eq_append {β : Type} {le : β → β → Bool}
    (htrans : ∀ a b c, le a b = true → le b c = true → le a c = true)
    (htotal : ∀ a b, (le a b || le b a) = true) (hanti : ∀ a b, le a b = true → le b a = true → a = b)
    {l a b : List β} (hp : l.Perm (a ++ b)) (ha : a.Pairwise (fun x y => le x y = true))
    (hab : ∀ x ∈ a, ∀ y ∈ b, le x y = true) : l.mergeSort le = a ++ b.mergeSort le :=
  mergeSort_eq_append_of_iff (fun _ _ => Iff.rfl) htrans (fun a b => Bool.or_eq_true _ _ ▸ htotal a b) hanti hp ha hab

namespace C13

/-! ### stable merge sort of an ascending list of indices = the unique lex-sorted permutation -/

section Lex
variable (le : Nat → Nat → Bool)

/-- `a` goes before `b`: smaller key, or equal key and smaller index -/
def LexLt (a b : Nat) : Prop := le a b = true ∧ (le b a = true → a < b)

/-- in a duplicate-free list the positions order the members, so two members occur in one order only -/
theorem pair_sublist_antisymm {β : Type} : ∀ (l : List β) (a b : β), l.Nodup → [a, b].Sublist l → [b, a].Sublist l → False := by
  classical
  intro l a b hnd h1 h2
  have hp : l.Pairwise fun x y => l.idxOf x < l.idxOf y :=
    List.pairwise_iff_getElem.mpr fun i j hi hj hij => by rwa [hnd.idxOf_getElem i hi, hnd.idxOf_getElem j hj]
  exact Nat.lt_asymm (List.pairwise_iff_forall_sublist.mp hp h1) (List.pairwise_iff_forall_sublist.mp hp h2)

theorem pair_sublist_of_pairwise_lt : ∀ (l : List Nat) (a b : Nat), l.Pairwise (· < ·) → a ∈ l → b ∈ l → a < b →
    [a, b].Sublist l := fun l a b hl ha hb hab =>
  List.sublist_of_subperm_of_pairwise (r := (· < ·))
    (List.subperm_of_subset (by simpa using Nat.ne_of_lt hab) (by simp [ha, hb])) (List.pairwise_pair.mpr hab) hl

theorem lexLt_asymm {le : Nat → Nat → Bool} {a b : Nat} (h1 : LexLt le a b) (h2 : LexLt le b a) : False :=
  Nat.lt_asymm (h1.2 h2.1) (h2.2 h1.1)

variable (trans : ∀ a b c : Nat, le a b = true → le b c = true → le a c = true)
  (total : ∀ a b : Nat, (le a b || le b a) = true)

include trans total in
/-- the stable sort of an ascending list is sorted for the lexicographic (key, index) order -/
theorem mergeSort_lex (l : List Nat) (hl : l.Pairwise (· < ·)) : (l.mergeSort le).Pairwise (LexLt le) := by
  rw [List.pairwise_iff_forall_sublist]
  intro a b hab
  have hperm := List.mergeSort_perm l le
  have hnd : (l.mergeSort le).Nodup := hperm.nodup_iff.mpr (hl.imp Nat.ne_of_lt)
  refine ⟨List.pairwise_iff_forall_sublist.mp (List.pairwise_mergeSort trans total l) hab, fun hba => ?_⟩
  -- were `b < a`, then `[b, a]` would be a sublist of `l`, and stability would keep it one of the sorted list
  by_contra hnlt
  have hne : a ≠ b := fun h => by simpa [h] using hnd.sublist hab
  exact pair_sublist_antisymm _ a b hnd hab (List.pair_sublist_mergeSort trans total hba
    (pair_sublist_of_pairwise_lt l b a hl (hperm.subset (hab.subset (by simp))) (hperm.subset (hab.subset (by simp)))
      (by omega)))

theorem lex_unique (l₁ l₂ : List Nat) (h1 : l₁.Pairwise (LexLt le)) (h2 : l₂.Pairwise (LexLt le))
    (hp : l₁.Perm l₂) : l₁ = l₂ :=
  List.Perm.eq_of_pairwise (fun _ _ _ _ hab hba => (lexLt_asymm hab hba).elim) h1 h2 hp

include trans total in
/-- sorting commutes with filtering (stability) -/
theorem mergeSort_filter (l : List Nat) (hl : l.Pairwise (· < ·)) (p : Nat → Bool) :
    (l.mergeSort le).filter p = (l.filter p).mergeSort le :=
  lex_unique le _ _ ((mergeSort_lex le trans total l hl).filter p) (mergeSort_lex le trans total _ (hl.filter p))
    (((List.mergeSort_perm l le).filter p).trans (List.mergeSort_perm _ le).symm)

theorem mergeSort_congr (le' : Nat → Nat → Bool) (l : List Nat)
    (h : ∀ a ∈ l, ∀ b ∈ l, le a b = le' a b) : l.mergeSort le = l.mergeSort le' := by
  have := List.map_mergeSort (r := le) (s := le') (f := id) (l := l) (by simpa using h)
  simpa using this

end Lex

variable {α : Type} [Field α] [LinearOrder α] [IsStrictOrderedRing α] [Inhabited α]

/-- the comparison `argsortStable` sorts by, on keys `v` -/
def leBy (v : Nat → α) (a b : Nat) : Bool := !decide (v b < v a)

theorem leBy_iff (v : Nat → α) (a b : Nat) : leBy v a b = true ↔ v a ≤ v b := by
  simp [leBy]

theorem leBy_trans (v : Nat → α) (a b c : Nat) (h1 : leBy v a b = true) (h2 : leBy v b c = true) :
    leBy v a c = true := by
  rw [leBy_iff] at *; exact le_trans h1 h2

theorem leBy_total (v : Nat → α) (a b : Nat) : (leBy v a b || leBy v b a) = true := by
  simp only [Bool.or_eq_true, leBy_iff]; exact le_total _ _

/-- the live points sorted by key, ties by index -/
def sortedLive (v : Nat → α) (live : List Nat) : List Nat := live.mergeSort (leBy v)

theorem argsortStable_eq (col : List α) :
    argsortStable col = sortedLive (fun i => col.getD i default) (List.range col.length) := rfl

theorem sortedLive_perm (v : Nat → α) (live : List Nat) : (sortedLive v live).Perm live :=
  List.mergeSort_perm _ _

theorem sortedLive_mem (v : Nat → α) (live : List Nat) (i : Nat) : i ∈ sortedLive v live ↔ i ∈ live :=
  (sortedLive_perm v live).mem_iff

theorem sortedLive_length (v : Nat → α) (live : List Nat) : (sortedLive v live).length = live.length :=
  (sortedLive_perm v live).length_eq

theorem sortedLive_nodup (v : Nat → α) (live : List Nat) (h : live.Pairwise (· < ·)) : (sortedLive v live).Nodup :=
  (sortedLive_perm v live).nodup_iff.mpr (h.imp (fun h => Nat.ne_of_lt h))

theorem sortedLive_lex (v : Nat → α) (live : List Nat) (h : live.Pairwise (· < ·)) :
    (sortedLive v live).Pairwise (LexLt (leBy v)) :=
  mergeSort_lex _ (leBy_trans v) (leBy_total v) live h

theorem sortedLive_filter (v : Nat → α) (live : List Nat) (h : live.Pairwise (· < ·)) (p : Nat → Bool) :
    (sortedLive v live).filter p = sortedLive v (live.filter p) :=
  mergeSort_filter _ (leBy_trans v) (leBy_total v) live h p

theorem sortedLive_congr (v w : Nat → α) (live : List Nat)
    (h : ∀ a ∈ live, ∀ b ∈ live, (v a < v b ↔ w a < w b)) : sortedLive v live = sortedLive w live := by
  apply mergeSort_congr
  intro a ha b hb
  simp only [leBy]
  rw [decide_eq_decide.mpr (h b hb a ha)]

/-- head of a sorted live column: the first holder of the minimum -/
theorem sortedLive_head (v : Nat → α) (live : List Nat) (h : live.Pairwise (· < ·)) (a : Nat) (ha : a ∈ live)
    (hmin : ∀ b ∈ live, v a ≤ v b) (hfirst : ∀ b ∈ live, b < a → v a < v b) :
    (sortedLive v live).head? = some a := by
  refine head?_of_pairwise (fun _ _ => lexLt_asymm) (sortedLive_lex v live h) ((sortedLive_mem v live a).mpr ha)
    fun b hb hne => ?_
  have hb' := (sortedLive_mem v live b).mp hb
  refine ⟨(leBy_iff v a b).mpr (hmin b hb'), fun hba => ?_⟩
  -- a holder of the minimum with a smaller index would contradict `hfirst`
  by_contra hnlt
  exact absurd (hfirst b hb' (by omega)) (not_lt.mpr ((leBy_iff v b a).mp hba))

/-- end of a sorted live column: the holder of the maximum, when it is attained once -/
theorem sortedLive_last (v : Nat → α) (live : List Nat) (h : live.Pairwise (· < ·)) (a : Nat) (ha : a ∈ live)
    (hmax : ∀ b ∈ live, b ≠ a → v b < v a) : (sortedLive v live).getLast? = some a := by
  refine getLast?_of_pairwise (fun _ _ => lexLt_asymm) (sortedLive_lex v live h) ((sortedLive_mem v live a).mpr ha)
    fun b hb hne => ?_
  have hlt := hmax b ((sortedLive_mem v live b).mp hb) hne
  exact ⟨(leBy_iff v b a).mpr (le_of_lt hlt), fun hab => absurd hlt (not_lt.mpr ((leBy_iff v a b).mp hab))⟩

end C13
end Pymoode
