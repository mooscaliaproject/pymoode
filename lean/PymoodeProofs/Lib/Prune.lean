/-
The pruning loop without the metric: what holds of `pruneLoop` (through `pruneLive`, the loop with its live set made
explicit), `dropLast` and `clampRemove` for any recomputation — removed points stay below live ones as long as no live
value decreases (`stale_step`) — and `scratchArr`, the array every recomputation writes, the definitions' from scratch and
the kernels' by lazy update (`foldl_set_eq_scratchArr`).
-/
import PymoodeModel.Metrics.Kernel
import PymoodeProofs.Lib.List
import PymoodeProofs.Lib.Ext

namespace Pymoode

/-! ### `pruneLive`: the loop with its live set

This block stays first. Lean names the auxiliary matcher of a `match` after the first declaration of the file that
needs one of that shape and reuses it: were `dropLast_fold` first, `pruneLive`'s term would mention
`dropLast_fold.match_1`. -/

namespace C15

section
variable {α : Type} [Field α] [LinearOrder α] [IsStrictOrderedRing α] [Inhabited α]

/-- the removal loop with the live set made explicit: after `k` greedy removals -/
def pruneLive (recompute : List Nat → List (Ext α) → List (Ext α)) :
    Nat → List Nat → List (Ext α) → List Nat × List (Ext α)
  | 0, live, d => (live, d)
  | k + 1, live, d =>
    match dropLast d live with
    | none => (live, d)
    | some r =>
      let live' := live.filter (· != r)
      pruneLive recompute k live' (recompute live' d)

set_option linter.unusedSectionVars false in
theorem pruneLive_snd (recompute : List Nat → List (Ext α) → List (Ext α)) :
    ∀ (k : Nat) (live : List Nat) (d : List (Ext α)), (pruneLive recompute k live d).2 = pruneLoop recompute k live d := by
  intro k
  induction k with
  | zero => exact fun _ _ => rfl
  | succ k ih =>
    intro live d
    rw [pruneLive, pruneLoop]
    cases dropLast d live with
    | none => rfl
    | some r => exact ih _ _

set_option linter.unusedSectionVars false in
/-- one more removal at the end: the live set loses the current most crowded member -/
theorem pruneLive_succ (recompute : List Nat → List (Ext α) → List (Ext α)) :
    ∀ (k : Nat) (live : List Nat) (d : List (Ext α)),
      (pruneLive recompute (k + 1) live d).1 =
        match dropLast (pruneLive recompute k live d).2 (pruneLive recompute k live d).1 with
        | none => (pruneLive recompute k live d).1
        | some r => (pruneLive recompute k live d).1.filter (· != r) := by
  intro k
  induction k with
  | zero =>
    intro live d
    simp only [pruneLive]
    cases dropLast d live <;> rfl
  | succ k ih =>
    intro live d
    -- peel the first removal off both sides (`e`: the defining equation): what remains is `ih` for the loop started
    -- one step later
    have e : ∀ j, pruneLive recompute (j + 1) live d = match dropLast d live with
        | none => (live, d)
        | some r => pruneLive recompute j (live.filter (· != r)) (recompute (live.filter (· != r)) d) := fun _ => rfl
    rw [e (k + 1), e k]
    cases h : dropLast d live with
    | none => simp only [h]
    | some r => exact ih _ _

end

section
variable {α : Type} [LinearOrder α]

/-- invariance; without a counter, so the early stop on an empty live set does no harm -/
theorem pruneLive_preserves (rc : List Nat → List (Ext α) → List (Ext α)) (Q : List Nat → List (Ext α) → Prop)
    (hstep : ∀ live d r, Q live d → dropLast d live = some r →
      Q (live.filter (· != r)) (rc (live.filter (· != r)) d)) :
    ∀ (k : Nat) (live : List Nat) (d : List (Ext α)), Q live d →
      Q (pruneLive rc k live d).1 (pruneLive rc k live d).2 := by
  intro k
  induction k with
  | zero => exact fun _ _ h => h
  | succ k ih =>
    intro live d h
    rw [pruneLive]
    cases hr : dropLast d live with
    | none => exact h
    | some r => exact ih _ _ (hstep live d r h hr)

/-- counting: `I j`, to hold after `j` removals, has to provide the next one while `j < k` -/
theorem pruneLive_induct (rc : List Nat → List (Ext α) → List (Ext α)) :
    ∀ (k : Nat) (I : Nat → List Nat → List (Ext α) → Prop) (live : List Nat) (d : List (Ext α)),
      (∀ j live d, j < k → I j live d →
        ∃ r, dropLast d live = some r ∧ I (j + 1) (live.filter (· != r)) (rc (live.filter (· != r)) d)) →
      I 0 live d → I k (pruneLive rc k live d).1 (pruneLive rc k live d).2 := by
  intro k
  induction k with
  | zero => exact fun _ _ _ _ h => h
  | succ k ih =>
    intro I live d hstep h
    obtain ⟨r, hr, h'⟩ := hstep 0 live d k.succ_pos h
    rw [pruneLive, hr]
    exact ih (fun j => I (j + 1)) _ _ (fun j lv dd hj => hstep (j + 1) lv dd (Nat.succ_lt_succ hj)) h'

end

end C15

/-! ### `dropLast`: a live index of minimal value; so `pruneLive` loses one live point per pass -/

section DropLast
variable {α : Type} [LinearOrder α]

/-- the scan of `dropLast` started from a candidate `b`: the result is `b` or a later member, and minimal -/
theorem dropLast_fold (d : List (Ext α)) : ∀ (l : List Nat) (b : Nat),
    ∃ r, l.foldl (fun best i => match best with
        | none => some i
        | some b => if Ext.lt (d.getD b Ext.top) (d.getD i Ext.top) then some b else some i) (some b) = some r ∧
      (r = b ∨ r ∈ l) ∧ extLe (d.getD r Ext.top) (d.getD b Ext.top) = true ∧
      ∀ i ∈ l, extLe (d.getD r Ext.top) (d.getD i Ext.top) = true := by
  intro l
  induction l with
  | nil => exact fun b => ⟨b, rfl, Or.inl rfl, extLe_refl _, fun _ h => absurd h List.not_mem_nil⟩
  | cons a l ih =>
    intro b
    by_cases hlt : Ext.lt (d.getD b Ext.top) (d.getD a Ext.top) = true
    · -- `b` stays the candidate: `d[r] ≤ d[b] < d[a]`
      obtain ⟨r, e, hr, hb, hl⟩ := ih b
      simp only [List.foldl_cons, hlt, if_true]
      exact ⟨r, e, hr.imp id (List.mem_cons_of_mem _), hb,
        List.forall_mem_cons.mpr ⟨extLe_trans _ _ _ hb (extLe_of_lt hlt), hl⟩⟩
    · -- `a` becomes the candidate: `d[r] ≤ d[a] ≤ d[b]`
      obtain ⟨r, e, hr, ha, hl⟩ := ih a
      have hab := (extLe_iff_not_lt (d.getD a Ext.top) (d.getD b Ext.top)).mpr (Bool.eq_false_iff.mpr hlt)
      simp only [List.foldl_cons, hlt]
      exact ⟨r, e, Or.inr (hr.elim (· ▸ List.mem_cons_self) (List.mem_cons_of_mem _)),
        extLe_trans _ _ _ ha hab, List.forall_mem_cons.mpr ⟨ha, hl⟩⟩

theorem dropLast_isSome (d : List (Ext α)) {live : List Nat} (hne : live ≠ []) : ∃ r, dropLast d live = some r := by
  obtain ⟨a, t, rfl⟩ := List.exists_cons_of_ne_nil hne
  obtain ⟨r, e, _⟩ := dropLast_fold d t a
  exact ⟨r, e⟩

theorem dropLast_min (d : List (Ext α)) {live : List Nat} {r : Nat} (h : dropLast d live = some r) :
    r ∈ live ∧ ∀ i ∈ live, extLe (d.getD r Ext.top) (d.getD i Ext.top) = true := by
  cases live with
  | nil => cases h
  | cons a t =>
    obtain ⟨r', e, hr, ha, hl⟩ := dropLast_fold d t a
    obtain rfl : r' = r := Option.some.inj (e.symm.trans h)
    exact ⟨hr.elim (· ▸ List.mem_cons_self) (List.mem_cons_of_mem _), List.forall_mem_cons.mpr ⟨ha, hl⟩⟩

theorem C15.pruneLive_fst (recompute : List Nat → List (Ext α) → List (Ext α)) (k : Nat) (live : List Nat)
    (d : List (Ext α)) (hnd : live.Nodup) (hk : k ≤ live.length) :
    (C15.pruneLive recompute k live d).1.Nodup ∧ (C15.pruneLive recompute k live d).1.length = live.length - k := by
  refine C15.pruneLive_induct recompute k (fun j lv _ => lv.Nodup ∧ lv.length = live.length - j) live d ?_ ⟨hnd, rfl⟩
  rintro j lv dd hj ⟨h2, h3⟩
  obtain ⟨r, hr⟩ := dropLast_isSome dd (List.ne_nil_of_length_pos (h3 ▸ Nat.sub_pos_of_lt (hj.trans_le hk)))
  exact ⟨r, hr, h2.filter _, by rw [length_filter_ne h2 (dropLast_min dd hr).1, h3, Nat.sub_add_eq]⟩

end DropLast

/-! ### `clampRemove` -/

/-- not simply `≤ n − m`: a negative `n_remove` is raised to 0 also when `n < m` -/
theorem clampRemove_le (nRemove : Int) (n m : Nat) :
    clampRemove nRemove n m ≤ (n : Int) - m ∨ clampRemove nRemove n m ≤ 0 := by
  unfold clampRemove
  split_ifs <;> omega

/-- `n_remove − 1` passes, each removing one of `n` points, leave at least `m' + 1` of them, for every `m' ≤ m`
below `n` (the mnn kernel needs `m' = 2 ≤ m` for 2nn) -/
theorem clampRemove_toNat_le (nRemove : Int) {n m m' : Nat} (hm : m' ≤ m) (h : m' < n) :
    m' + 1 + (clampRemove nRemove n m - 1).toNat ≤ n := by
  have := clampRemove_le nRemove n m
  omega

theorem clampRemove_natCast {k n m : Nat} (h : k + m ≤ n) : clampRemove (k : Int) n m = k := by
  unfold clampRemove
  rw [if_pos (by omega), if_neg (by omega)]

/-- `n_remove = k + 1` within the budget makes the loop run `k` times -/
theorem clampRemove_succ_toNat {k n m : Nat} (h : k + 1 + m ≤ n) :
    (clampRemove ((k + 1 : Nat) : Int) n m - 1).toNat = k := by
  rw [clampRemove_natCast h]
  omega

/-! ### one pass of the loop, for any recomputation -/

section Loop
variable {β : Type} [LinearOrder β]

theorem pruneLoop_succ (recompute : List Nat → List (Ext β) → List (Ext β)) (fuel : Nat)
    {live : List Nat} {d : List (Ext β)} {r : Nat} (hr : dropLast d live = some r) :
    pruneLoop recompute (fuel + 1) live d =
      pruneLoop recompute fuel (live.filter (· != r)) (recompute (live.filter (· != r)) d) := by
  rw [pruneLoop, hr]

/-- every dead point's (stale) value is ≤ every live point's value; `C15.LoopInv.stale` (with `contains`) and
`C15.PInv.stale` spell it out -/
def Stale (n : Nat) (live : List Nat) (d : List (Ext β)) : Prop :=
  ∀ k, k < n → k ∉ live → ∀ i ∈ live, extLe (d.getD k Ext.top) (d.getD i Ext.top) = true

/-- one removal: the dropped point held a minimal value; if the recomputation `d'` keeps the values of the dead
points and does not decrease those of the live ones, dead values stay below live values -/
theorem stale_step {n : Nat} {live : List Nat} {d d' : List (Ext β)} {r : Nat} (hst : Stale n live d)
    (hr : dropLast d live = some r)
    (hdead : ∀ k, k < n → k ∉ live.filter (· != r) → d'.getD k Ext.top = d.getD k Ext.top)
    (hgrow : ∀ i ∈ live.filter (· != r), extLe (d.getD i Ext.top) (d'.getD i Ext.top) = true) :
    Stale n (live.filter (· != r)) d' := by
  intro k hk hkl i hi
  have hil := (mem_filter_ne.mp hi).1
  rw [hdead k hk hkl]
  refine extLe_trans _ _ _ ?_ (hgrow i hi)
  by_cases hkr : k = r
  · exact hkr ▸ (dropLast_min d hr).2 i hil
  · exact hst k hk (fun h => hkl (mem_filter_ne.mpr ⟨h, hkr⟩)) i hil

end Loop

/-! ### the array a recomputation writes -/

section Scratch
variable {β : Type} {ex live items : List Nat} {n : Nat} {V : Nat → Ext β} {old d : List (Ext β)}

/-- the array every recomputation of a pruning metric writes: `+inf` at the extremes, `V i` at every other live point,
and at a dead point what the array held before -/
def scratchArr (ex live : List Nat) (n : Nat) (V : Nat → Ext β) (old : List (Ext β)) : List (Ext β) :=
  (List.range n).map fun i => if i ∈ ex then Ext.top else if i ∈ live then V i else old.getD i Ext.top

theorem scratchArr_length : (scratchArr ex live n V old).length = n := by
  rw [scratchArr, List.length_map, List.length_range]

theorem scratchArr_getD {i : Nat} (hi : i < n) : (scratchArr ex live n V old).getD i Ext.top =
    if i ∈ ex then Ext.top else if i ∈ live then V i else old.getD i Ext.top :=
  getD_map_range _ _ hi

/-- an extreme is `+inf`, whatever the default the array is read with -/
theorem scratchArr_getD_ex {i : Nat} (hi : i < n) (hex : i ∈ ex) (e : Ext β) :
    (scratchArr ex live n V old).getD i e = Ext.top := by
  rw [scratchArr, getD_map_range _ _ hi, if_pos hex]

theorem scratchArr_forall {P : Ext β → Prop} (htop : P Ext.top) (hV : ∀ i ∈ live, P (V i)) (hold : ∀ e ∈ old, P e) :
    ∀ e ∈ scratchArr ex live n V old, P e := by
  refine List.forall_mem_map.mpr fun i _ => ?_
  split_ifs with _ hil
  exacts [htop, hV i hil, getD_of_forall hold htop i]

/-- only the values at live points that are not extremes matter -/
theorem scratchArr_congr {V' : Nat → Ext β} (h : ∀ i ∈ live, i ∉ ex → V i = V' i) :
    scratchArr ex live n V old = scratchArr ex live n V' old :=
  List.map_congr_left fun i _ => by
    by_cases hie : i ∈ ex
    · rw [if_pos hie, if_pos hie]
    · by_cases hil : i ∈ live
      · rw [if_neg hie, if_neg hie, if_pos hil, if_pos hil, h i hil hie]
      · rw [if_neg hie, if_neg hie, if_neg hil, if_neg hil]

/-- a lazily updated array is the recomputation (`c_calc_d` of both compiled kernels writes the items only) -/
theorem foldl_set_eq_scratchArr {g : Nat → Ext β} (hlen : d.length = n) (hitems : ∀ i ∈ items, i ∈ live ∧ i ∉ ex)
    (hg : ∀ i ∈ items, g i = V i) (hex : ∀ i ∈ ex, i < n → d.getD i Ext.top = Ext.top)
    (hkeep : ∀ i ∈ live, i ∉ ex → i ∉ items → i < n → d.getD i Ext.top = V i) :
    items.foldl (fun l i => l.set i (g i)) d = scratchArr ex live n V d := by
  have h1 := length_foldl_set g items d
  refine ext_getD Ext.top (h1.trans (hlen.trans scratchArr_length.symm)) fun i hi => ?_
  rw [h1, hlen] at hi
  rw [getD_foldl_set, scratchArr_getD hi]
  by_cases hit : i ∈ items
  · rw [if_pos ⟨hit, hlen ▸ hi⟩, if_neg (hitems i hit).2, if_pos (hitems i hit).1, hg i hit]
  · rw [if_neg fun h => hit h.1]
    by_cases hie : i ∈ ex
    · rw [if_pos hie, hex i hie hi]
    · by_cases hil : i ∈ live
      · rw [if_neg hie, if_pos hil, hkeep i hil hie hit hi]
      · rw [if_neg hie, if_neg hil]

theorem map_scratchArr (φ : Ext β → Ext β) (hφ : φ Ext.top = Ext.top) :
    (scratchArr ex live n V old).map φ = scratchArr ex live n (fun i => φ (V i)) (old.map φ) := by
  unfold scratchArr
  rw [List.map_map]
  refine List.map_congr_left fun i _ => ?_
  rw [Function.comp_apply, apply_ite φ, apply_ite φ, ← List.getD_map (f := φ), hφ]

/-- what `stale_step` asks of a recomputation, from: no new value is smaller than the entry it replaces -/
theorem scratchArr_stale_step {γ : Type} [LinearOrder γ] {ex live' : List Nat} {n : Nat} {V' : Nat → Ext γ}
    {D : List (Ext γ)} (hex : ∀ k ∈ ex, k < n → D.getD k Ext.top = Ext.top) (hlt : ∀ i ∈ live', i < n)
    (hV : ∀ i ∈ live', i ∉ ex → extLe (D.getD i Ext.top) (V' i) = true) :
    (∀ k, k < n → k ∉ live' → (scratchArr ex live' n V' D).getD k Ext.top = D.getD k Ext.top) ∧
    ∀ i ∈ live', extLe (D.getD i Ext.top) ((scratchArr ex live' n V' D).getD i Ext.top) = true := by
  refine ⟨fun k hk hkl => ?_, fun i hi => ?_⟩
  · rw [scratchArr_getD hk, if_neg hkl]
    split
    next h => exact (hex k h hk).symm
    next => rfl
  · rw [scratchArr_getD (hlt i hi), if_pos hi]
    split
    next => exact extLe_top _
    next h => exact hV i hi h

end Scratch

/-! ### `insertSorted` -/

theorem mem_insertSorted (x j : Nat) : ∀ (l : List Nat), j ∈ insertSorted x l ↔ j = x ∨ j ∈ l := by
  intro l
  induction l with
  | nil => rw [insertSorted, List.mem_singleton, List.mem_nil_iff, or_false]
  | cons y ys ih =>
    rw [insertSorted]
    split_ifs with h1 h2
    · exact List.mem_cons
    · rw [h2, List.mem_cons, ← or_assoc, or_self]
    · rw [List.mem_cons, ih, List.mem_cons, or_left_comm]

end Pymoode
