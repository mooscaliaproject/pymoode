/-
List lemmas for the way the model indexes: `l.getD i d`, folds that `set` positions, membership as a Boolean,
`filter (· != k)` as erasure, `idxOf` in a duplicate-free list, merge sort by a Boolean comparison.
-/
import Mathlib.Data.List.GetD
import Mathlib.Data.List.Nodup
import Mathlib.Data.List.Perm.Subperm

namespace Pymoode

variable {β γ : Type}

/-! ### `getD` -/

theorem getD_map_range (f : Nat → β) (d : β) {n i : Nat} (hi : i < n) : ((List.range n).map f).getD i d = f i := by
  simp [hi]

theorem getD_map_of_lt (f : γ → β) (l : List γ) (d : β) {i : Nat} (hi : i < l.length) : (l.map f).getD i d = f l[i] := by
  simp [hi]

theorem getD_of_forall {P : β → Prop} {l : List β} {d : β} (hl : ∀ e ∈ l, P e) (hd : P d) (i : Nat) : P (l.getD i d) := by
  rcases Nat.lt_or_ge i l.length with h | h
  · rw [List.getD_eq_getElem _ _ h]; exact hl _ (List.getElem_mem h)
  · rw [List.getD_eq_default _ _ h]; exact hd

theorem getD_mem {l : List β} {d : β} {i : Nat} (hi : i < l.length) : l.getD i d ∈ l := by
  rw [List.getD_eq_getElem _ _ hi]; exact List.getElem_mem hi

theorem getD_set (l : List β) (a i : Nat) (r d : β) :
    (l.set a r).getD i d = if a = i ∧ a < l.length then r else l.getD i d := by
  rw [List.getD_eq_getElem?_getD, List.getElem?_set]
  by_cases hai : a = i
  · subst hai
    by_cases hl : a < l.length <;> simp [hl]
  · simp [hai]

theorem ext_getD (d : β) {l₁ l₂ : List β} (hlen : l₁.length = l₂.length)
    (h : ∀ i, i < l₁.length → l₁.getD i d = l₂.getD i d) : l₁ = l₂ := by
  apply List.ext_getElem hlen
  intro i h1 h2
  have := h i h1
  rwa [List.getD_eq_getElem _ _ h1, List.getD_eq_getElem _ _ h2] at this

theorem eq_map_range_getD (l : List β) (d : β) : l = (List.range l.length).map fun i => l.getD i d :=
  ext_getD d (by simp) fun i hi => by rw [getD_map_range _ _ hi]

theorem head?_eq_some_getD {s : List β} (h : s ≠ []) (d : β) : s.head? = some (s.getD 0 d) := by
  have h0 := List.length_pos_iff.mpr h
  rw [List.head?_eq_getElem?, List.getElem?_eq_getElem h0, List.getD_eq_getElem _ _ h0]

theorem getLast?_eq_some_getD {s : List β} (h : s ≠ []) (d : β) : s.getLast? = some (s.getD (s.length - 1) d) := by
  have h1 : s.length - 1 < s.length := Nat.sub_one_lt (mt List.length_eq_zero_iff.mp h)
  rw [List.getLast?_eq_getElem?, List.getElem?_eq_getElem h1, List.getD_eq_getElem _ _ h1]

/-! ### entries of sorted and of duplicate-free lists -/

theorem rel_head_of_pairwise {R : β → β → Prop} (refl : ∀ a, R a a) {b : β} {t : List β} (h : (b :: t).Pairwise R) :
    ∀ q ∈ b :: t, R b q :=
  List.forall_mem_cons.mpr ⟨refl b, (List.pairwise_cons.mp h).1⟩

theorem head?_of_pairwise {R : β → β → Prop} (hR : ∀ a b, R a b → R b a → False) {l : List β}
    (hl : l.Pairwise R) {a : β} (ha : a ∈ l) (hmin : ∀ b ∈ l, b ≠ a → R a b) : l.head? = some a := by
  cases l with
  | nil => cases ha
  | cons c t =>
    refine congrArg some (Classical.not_not.mp fun hca => ?_)
    exact hR c a ((List.pairwise_cons.mp hl).1 a ((List.mem_cons.mp ha).resolve_left (Ne.symm hca)))
      (hmin c List.mem_cons_self hca)

/-- `head?_of_pairwise` of the reversed list -/
theorem getLast?_of_pairwise {R : β → β → Prop} (hR : ∀ a b, R a b → R b a → False) {l : List β}
    (hl : l.Pairwise R) {a : β} (ha : a ∈ l) (hmax : ∀ b ∈ l, b ≠ a → R b a) : l.getLast? = some a := by
  rw [← List.head?_reverse]
  exact head?_of_pairwise (R := fun x y => R y x) (fun a b h1 h2 => hR b a h1 h2) (List.pairwise_reverse.mpr hl)
    (List.mem_reverse.mpr ha) fun b hb => hmax b (List.mem_reverse.mp hb)

theorem getElem_map_inj {f : β → γ} {l : List β} (h : (l.map f).Nodup) {i j : Nat}
    (hi : i < l.length) (hj : j < l.length) (e : f l[i] = f l[j]) : i = j :=
  (h.getElem_inj_iff (hi := by simpa using hi) (hj := by simpa using hj)).mp (by simpa using e)

theorem nodup_filterMap_getElem? {l : List β} (hl : l.Nodup) {ps : List Nat} (hp : ps.Nodup) :
    (ps.filterMap (l[·]?)).Nodup :=
  hp.filterMap fun _ _ _ hb hq =>
    (List.getElem?_inj (List.getElem?_eq_some_iff.mp hb).1 hl).mp (hb.trans hq.symm)

theorem nodup_map_getD {l : List β} (hl : l.Nodup) {ps : List Nat} (hp : ps.Nodup)
    (hv : ∀ p ∈ ps, p < l.length) (d : β) : (ps.map fun j => l.getD j d).Nodup :=
  hp.map_on fun a ha b hb hab => by
    rw [List.getD_eq_getElem _ _ (hv a ha), List.getD_eq_getElem _ _ (hv b hb)] at hab
    exact hl.getElem_inj_iff.mp hab

/-! ### merge sort by a Boolean comparison that decides a total preorder `R` -/

section MergeSort
variable {le : β → β → Bool} {R : β → β → Prop}

theorem pairwise_mergeSort_of_iff (hle : ∀ a b, le a b = true ↔ R a b) (trans : ∀ a b c, R a b → R b c → R a c)
    (total : ∀ a b, R a b ∨ R b a) (l : List β) : (l.mergeSort le).Pairwise R :=
  (List.pairwise_mergeSort (le := le) (fun a b c => by simpa only [hle] using trans a b c)
    (fun a b => by simpa only [Bool.or_eq_true, hle] using total a b) l).imp (hle _ _).mp

/-- for an antisymmetric `R` the sorted list is determined by its parts: it begins with any ascending part `a` of the
list that lies below the rest -/
theorem mergeSort_eq_append_of_iff (hle : ∀ a b, le a b = true ↔ R a b) (trans : ∀ a b c, R a b → R b c → R a c)
    (total : ∀ a b, R a b ∨ R b a) (anti : ∀ a b, R a b → R b a → a = b) {l a b : List β} (hp : l.Perm (a ++ b))
    (ha : a.Pairwise R) (hab : ∀ x ∈ a, ∀ y ∈ b, R x y) : l.mergeSort le = a ++ b.mergeSort le :=
  ((List.mergeSort_perm l le).trans (hp.trans ((List.mergeSort_perm b le).symm.append_left a))).eq_of_pairwise
    (fun x y _ _ => anti x y) (pairwise_mergeSort_of_iff hle trans total l)
    (List.pairwise_append.mpr ⟨ha, pairwise_mergeSort_of_iff hle trans total b,
      fun x hx y hy => hab x hx y ((List.mergeSort_perm b le).subset hy)⟩)

end MergeSort

/-! ### a list cut in two, counting -/

theorem mem_drop_of_not_mem_take {l : List β} {a : β} {k : Nat} (h : a ∈ l) (hn : a ∉ l.take k) : a ∈ l.drop k :=
  (List.mem_append.mp (by rwa [List.take_append_drop])).resolve_left hn

theorem countP_take_add_drop (p : β → Bool) (s : List β) (k : Nat) :
    s.countP p = (s.take k).countP p + (s.drop k).countP p := by
  rw [← List.countP_append, List.take_append_drop]

theorem countP_eq_countP_getD (l : List β) (d : β) (q : β → Bool) :
    l.countP q = (List.range l.length).countP fun p => q (l.getD p d) := by
  conv_lhs => rw [eq_map_range_getD l d, List.countP_map]
  rfl

/-- counting the members of `range n` in the order of a permutation of them -/
theorem countP_range_perm {o : List Nat} {n : Nat} (h : o.Perm (List.range n)) (q : Nat → Bool) :
    (List.range n).countP q = (List.range n).countP fun p => q (o.getD p 0) := by
  rw [← h.countP_eq, countP_eq_countP_getD o 0, h.length_eq, List.length_range]

/-! ### folds that write positions, folds over `range N` -/

/-- the form without side condition: a position that was written holds `g j` if it exists at all -/
theorem getElem?_foldl_set (g : Nat → β) (items : List Nat) (l : List β) (j : Nat) :
    (items.foldl (fun l i => l.set i (g i)) l)[j]? = if j ∈ items then l[j]?.map fun _ => g j else l[j]? := by
  induction items generalizing l with
  | nil => rfl
  | cons a t ih =>
    rw [List.foldl_cons, ih, List.getElem?_set']
    by_cases hja : a = j
    · -- written now: whatever is written later, the entry ends as `g j` if it exists
      subst hja
      rw [if_pos rfl, if_pos List.mem_cons_self]
      cases l[a]? <;> split <;> rfl
    · rw [if_neg hja]
      exact if_congr ⟨List.mem_cons_of_mem _, fun h => (List.mem_cons.mp h).resolve_left (Ne.symm hja)⟩ rfl rfl

theorem length_foldl_set (g : Nat → β) (items : List Nat) (l : List β) :
    (items.foldl (fun l i => l.set i (g i)) l).length = l.length := by
  induction items generalizing l with
  | nil => rfl
  | cons a t ih => rw [List.foldl_cons, ih, List.length_set]

theorem getD_foldl_set (g : Nat → β) (d : β) (items : List Nat) (l : List β) (j : Nat) :
    (items.foldl (fun l i => l.set i (g i)) l).getD j d = if j ∈ items ∧ j < l.length then g j else l.getD j d := by
  rw [List.getD_eq_getElem?_getD, getElem?_foldl_set, List.getD_eq_getElem?_getD]
  by_cases hj : j ∈ items
  · rcases Nat.lt_or_ge j l.length with h | h
    · rw [if_pos hj, if_pos ⟨hj, h⟩, List.getElem?_eq_getElem h]; rfl
    · rw [if_pos hj, if_neg fun hc => Nat.not_lt.mpr h hc.2, List.getElem?_eq_none h]; rfl
  · rw [if_neg hj, if_neg fun hc => hj hc.1]

theorem foldl_set_flag (g : Nat → β) (b : Nat → Bool) : ∀ (items : List Nat) (l : List β) (ok : Bool),
    items.foldl (fun (acc : List β × Bool) i => (acc.1.set i (g i), acc.2 && b i)) (l, ok) =
      (items.foldl (fun l i => l.set i (g i)) l, ok && items.all b) := by
  intro items
  induction items with
  | nil => intro l ok; simp
  | cons a t ih => intro l ok; simp [ih, Bool.and_assoc]

theorem foldl_set_range (g : Nat → β) {n : Nat} {l : List β} (h : l.length = n) :
    (List.range n).foldl (fun l i => l.set i (g i)) l = (List.range n).map g := by
  refine List.ext_getElem? fun j => ?_
  rw [getElem?_foldl_set, List.getElem?_map]
  rcases Nat.lt_or_ge j n with hj | hj
  · rw [if_pos (List.mem_range.mpr hj), List.getElem?_eq_getElem (h ▸ hj), List.getElem?_range hj]; rfl
  · rw [if_neg (mt List.mem_range.mp (Nat.not_lt.mpr hj)), List.getElem?_eq_none (h ▸ hj),
      List.getElem?_eq_none (List.length_range ▸ hj)]; rfl

theorem forall_mem_foldl_set {P : β → Prop} (g : Nat → β) (hg : ∀ i, P (g i)) (items : List Nat) (l : List β)
    (h : ∀ e ∈ l, P e) : ∀ e ∈ items.foldl (fun l i => l.set i (g i)) l, P e := by
  induction items generalizing l with
  | nil => exact h
  | cons a t ih => exact ih _ fun e he => (List.mem_or_eq_of_mem_set he).elim (h e) fun e' => e' ▸ hg a

/-- a fold that rewrites rows in place, `t[i] := g i t[i]` for `i` in `items`: an invariant `P i` of row `i` that
the rewrites of the items keep holds of every row afterwards; the rows off the items are untouched; and the row of
an item is `g i r` for some `r` with `P i r` -/
theorem foldl_rows_inv (g : Nat → β → β) (d : β) (P : Nat → β → Prop) : ∀ (items : List Nat) (T : List β),
    (∀ i ∈ items, ∀ r, P i r → P i (g i r)) → (∀ i, P i (T.getD i d)) →
      (items.foldl (fun t i => t.set i (g i (t.getD i d))) T).length = T.length ∧
      (∀ i, P i ((items.foldl (fun t i => t.set i (g i (t.getD i d))) T).getD i d)) ∧
      (∀ i, i ∉ items → (items.foldl (fun t i => t.set i (g i (t.getD i d))) T).getD i d = T.getD i d) ∧
      (∀ i ∈ items, i < T.length →
        ∃ r, P i r ∧ (items.foldl (fun t i => t.set i (g i (t.getD i d))) T).getD i d = g i r) := by
  intro items
  induction items with
  | nil => exact fun T _ hP => ⟨rfl, hP, fun _ _ => rfl, fun _ h => absurd h List.not_mem_nil⟩
  | cons a t ih =>
    intro T hg hP
    have hP1 : ∀ i, P i ((T.set a (g a (T.getD a d))).getD i d) := by
      intro i
      rw [getD_set]
      split
      next h => exact h.1 ▸ hg a List.mem_cons_self _ (hP a)
      next => exact hP i
    obtain ⟨h1, h2, h3, h4⟩ := ih _ (fun i hi => hg i (List.mem_cons_of_mem _ hi)) hP1
    rw [List.length_set] at h1 h4
    refine ⟨h1, h2, fun i hi => ?_, fun i hi hlt => ?_⟩
    · rw [List.mem_cons, not_or] at hi
      rw [List.foldl_cons, h3 i hi.2, getD_set, if_neg fun h => hi.1 h.1.symm]
    · by_cases hit : i ∈ t
      · exact h4 i hit hlt
      · -- `a` is rewritten for the last time
        obtain rfl : i = a := (List.mem_cons.mp hi).resolve_right hit
        exact ⟨_, hP i, by rw [List.foldl_cons, h3 i hit, getD_set, if_pos ⟨rfl, hlt⟩]⟩

/-- `for n in range(N): if c n: acc = upd acc n` when no `n` satisfies `c` -/
theorem foldl_range_none (c : Nat → Prop) [DecidablePred c] (upd : β → Nat → β) (init : β) :
    ∀ (N : Nat), (∀ q, q < N → ¬ c q) →
      (List.range N).foldl (fun acc n => if c n then upd acc n else acc) init = init := by
  intro N
  induction N with
  | zero => exact fun _ => rfl
  | succ N ih =>
    intro h
    rw [List.range_succ, List.foldl_append, ih fun q hq => h q (Nat.lt_succ_of_lt hq),
      List.foldl_cons, List.foldl_nil, if_neg (h N N.lt_succ_self)]

/-- … and when exactly one does -/
theorem foldl_range_unique (c : Nat → Prop) [DecidablePred c] (upd : β → Nat → β) (init : β) (p : Nat)
    (hc : c p) : ∀ (N : Nat), p < N → (∀ q, q < N → q ≠ p → ¬ c q) →
      (List.range N).foldl (fun acc n => if c n then upd acc n else acc) init = upd init p := by
  intro N
  induction N with
  | zero => exact fun hp => absurd hp (Nat.not_lt_zero p)
  | succ N ih =>
    intro hp h
    rw [List.range_succ, List.foldl_append]
    rcases Nat.lt_or_ge p N with hlt | hge
    · rw [ih hlt fun q hq hne => h q (Nat.lt_succ_of_lt hq) hne,
        List.foldl_cons, List.foldl_nil, if_neg (h N N.lt_succ_self (Nat.ne_of_gt hlt))]
    · obtain rfl : p = N := Nat.le_antisymm (Nat.le_of_lt_succ hp) hge
      rw [foldl_range_none c upd init p fun q hq => h q (Nat.lt_succ_of_lt hq) (Nat.ne_of_lt hq),
        List.foldl_cons, List.foldl_nil, if_pos hc]

/-! ### membership as a Boolean, `filter (· != k)` as erasure -/

section BEq
variable [BEq β] [LawfulBEq β]

theorem contains_eq_false {l : List β} {i : β} : l.contains i = false ↔ i ∉ l := by simp

theorem contains_of_filter {l : List β} {p : β → Bool} {j : β} (h : (l.filter p).contains j = true) :
    l.contains j = true :=
  List.contains_iff_mem.mpr (List.mem_of_mem_filter (List.contains_iff_mem.mp h))

theorem mem_filter_ne {l : List β} {k i : β} : i ∈ l.filter (· != k) ↔ i ∈ l ∧ i ≠ k := by simp

theorem mem_filter_not_contains {l ex : List β} {i : β} : i ∈ l.filter (fun i => !ex.contains i) ↔ i ∈ l ∧ i ∉ ex := by
  rw [List.mem_filter, Bool.not_eq_true', contains_eq_false]

theorem filter_ne_eq_eraseIdx {s : List β} (hs : s.Nodup) (k : β) :
    s.filter (· != k) = s.eraseIdx (s.idxOf k) := by
  rw [← List.erase_eq_eraseIdx_of_idxOf rfl, hs.erase_eq_filter]

theorem length_filter_ne {s : List β} (hs : s.Nodup) {k : β} (hk : k ∈ s) :
    (s.filter (· != k)).length = s.length - 1 := by
  rw [← hs.erase_eq_filter, List.length_erase_of_mem hk]

theorem length_filter_ne_ge {s : List β} (hs : s.Nodup) (k : β) : s.length - 1 ≤ (s.filter (· != k)).length := by
  by_cases hk : k ∈ s
  · exact Nat.le_of_eq (length_filter_ne hs hk).symm
  · rw [List.filter_eq_self.mpr fun a ha => by simpa using fun h : a = k => hk (h ▸ ha)]; omega

theorem length_filter_ne_ne_ge {s : List β} (hs : s.Nodup) (a b : β) :
    s.length - 2 ≤ ((s.filter (· != a)).filter (· != b)).length :=
  Nat.le_trans (Nat.sub_le_sub_right (length_filter_ne_ge hs a) 1) (length_filter_ne_ge (hs.filter _) b)

theorem length_filter_two {s : List β} (hs : s.Nodup) (a b : β) {p : β → Bool}
    (hp : ∀ i ∈ s, i ≠ a → i ≠ b → p i = true) : s.length - 2 ≤ (s.filter p).length :=
  Nat.le_trans (length_filter_ne_ne_ge hs a b) <| by
    rw [List.filter_filter, ← List.countP_eq_length_filter, ← List.countP_eq_length_filter]
    refine List.countP_mono_left fun i hi h => ?_
    rw [Bool.and_eq_true, bne_iff_ne, bne_iff_ne] at h
    exact hp i hi h.2 h.1

/-! ### positions (`idxOf`) in a duplicate-free list -/

theorem idxOf?_of_mem {l : List β} {i : β} (hi : i ∈ l) : l.idxOf? i = some (l.idxOf i) := by
  cases h : l.idxOf? i with
  | none => exact absurd hi (List.idxOf?_eq_none_iff.mp h)
  | some p => rw [List.idxOf_eq_getD_idxOf?, h]; rfl

theorem idxOf_pred_lt {s : List β} {i : β} (hi : i ∈ s) : s.idxOf i - 1 < s.length :=
  Nat.lt_of_le_of_lt (Nat.sub_le _ _) (List.idxOf_lt_length_of_mem hi)

theorem idxOf_map_of_inj [BEq γ] [LawfulBEq γ] (g : β → γ) (a : β) {l : List β} : (∀ b ∈ l, g b = g a → b = a) →
    (l.map g).idxOf (g a) = l.idxOf a := by
  induction l with
  | nil => exact fun _ => rfl
  | cons b t ih =>
    intro h
    have hg : (g b == g a) = (b == a) := by
      rw [Bool.eq_iff_iff, beq_iff_eq, beq_iff_eq]; exact ⟨h b List.mem_cons_self, congrArg g⟩
    rw [List.map_cons, List.idxOf_cons, List.idxOf_cons, hg,
      ih fun b hb => h b (List.mem_cons_of_mem _ hb)]

theorem getD_idxOf {s : List β} {i d : β} (hi : i ∈ s) : s.getD (s.idxOf i) d = i := by
  have hp := List.idxOf_lt_length_of_mem hi
  rw [List.getD_eq_getElem _ _ hp, List.getElem_idxOf hp]

theorem idxOf_getD_of_nodup {s : List β} (hs : s.Nodup) {j : Nat} {d : β} (hj : j < s.length) :
    s.idxOf (s.getD j d) = j := by
  rw [List.getD_eq_getElem _ _ hj, hs.idxOf_getElem j hj]

theorem getD_eq_iff_idxOf {s : List β} (hs : s.Nodup) {i d : β} {j : Nat} (hi : i ∈ s) (hj : j < s.length) :
    s.getD j d = i ↔ j = s.idxOf i :=
  ⟨fun h => by rw [← h, idxOf_getD_of_nodup hs hj], fun h => by rw [h, getD_idxOf hi]⟩

end BEq

end Pymoode
