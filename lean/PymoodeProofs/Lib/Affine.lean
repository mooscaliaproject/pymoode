/-
The affine maps of the unit interval onto a segment `[p, q]` of an ordered field, in the two shapes in which pymoode
writes them: increasing from `p`, `p + r * (q - p)` (dither, jitter, bounce-back and rand-init after a lower
violation), and decreasing from `q`, `q - r * (q - p)` (bounce-back and rand-init after an upper violation).
For each shape: where the value lies, strict monotonicity in `r`, the draw that hits a given point, and the
solution of `a ≤ value`, `value < b` for `r` (which turns a count of draws into a count of grid points).
There is deliberately no definition `lerp`: stated on the expressions themselves, the lemmas apply to the model's
definitions (`repairLow`, `scaleDither`, …) by unfolding alone.
-/
import Mathlib.Algebra.Order.Field.Basic

namespace Pymoode

variable {α : Type*} [Field α] [LinearOrder α] [IsStrictOrderedRing α] {p q r r' a b y : α}

/-! ### increasing: `p + r * (q - p)` -/

theorem le_lerp (h : p ≤ q) (hr : 0 ≤ r) : p ≤ p + r * (q - p) :=
  le_add_of_nonneg_right (mul_nonneg hr (sub_nonneg.2 h))

theorem lerp_le (h : p ≤ q) (hr : r ≤ 1) : p + r * (q - p) ≤ q :=
  le_sub_iff_add_le'.1 (mul_le_of_le_one_left (sub_nonneg.2 h) hr)

theorem lerp_mem (h : p ≤ q) (hr0 : 0 ≤ r) (hr1 : r ≤ 1) : p ≤ p + r * (q - p) ∧ p + r * (q - p) ≤ q :=
  ⟨le_lerp h hr0, lerp_le h hr1⟩

theorem lerp_lt_lerp (h : p < q) (hr : r < r') : p + r * (q - p) < p + r' * (q - p) :=
  add_lt_add_right (mul_lt_mul_of_pos_right hr (sub_pos.2 h)) p

/-- the value at `r' = 1` is `q` -/
theorem lerp_lt (h : p < q) (hr : r < 1) : p + r * (q - p) < q := by
  simpa using lerp_lt_lerp h hr

theorem le_lerp_iff (h : p < q) : a ≤ p + r * (q - p) ↔ (a - p) / (q - p) ≤ r := by
  rw [div_le_iff₀ (sub_pos.2 h), sub_le_iff_le_add']

theorem lerp_lt_iff (h : p < q) : p + r * (q - p) < b ↔ r < (b - p) / (q - p) := by
  rw [lt_div_iff₀ (sub_pos.2 h), lt_sub_iff_add_lt']

/-- every point of `[p, q)` is hit, by the draw `(y - p) / (q - p)` -/
theorem lerp_onto (h : p < q) (hy : p ≤ y ∧ y < q) : ∃ r, 0 ≤ r ∧ r < 1 ∧ p + r * (q - p) = y :=
  ⟨(y - p) / (q - p), div_nonneg (sub_nonneg.2 hy.1) (sub_pos.2 h).le,
    (div_lt_one (sub_pos.2 h)).2 (sub_lt_sub_right hy.2 p),
    by rw [div_mul_cancel₀ _ (sub_pos.2 h).ne', add_sub_cancel]⟩

/-! ### decreasing: `q - r * (q - p)` -/

theorem lerpRev_le (h : p ≤ q) (hr : 0 ≤ r) : q - r * (q - p) ≤ q :=
  sub_le_self q (mul_nonneg hr (sub_nonneg.2 h))

theorem le_lerpRev (h : p ≤ q) (hr : r ≤ 1) : p ≤ q - r * (q - p) :=
  le_sub_comm.1 (mul_le_of_le_one_left (sub_nonneg.2 h) hr)

theorem lerpRev_mem (h : p ≤ q) (hr0 : 0 ≤ r) (hr1 : r ≤ 1) : p ≤ q - r * (q - p) ∧ q - r * (q - p) ≤ q :=
  ⟨le_lerpRev h hr1, lerpRev_le h hr0⟩

theorem lerpRev_lt_lerpRev (h : p < q) (hr : r < r') : q - r' * (q - p) < q - r * (q - p) :=
  sub_lt_sub_left (mul_lt_mul_of_pos_right hr (sub_pos.2 h)) q

theorem lt_lerpRev_iff (h : p < q) : a < q - r * (q - p) ↔ r < (q - a) / (q - p) := by
  rw [lt_div_iff₀ (sub_pos.2 h), lt_sub_comm]

theorem lerpRev_le_iff (h : p < q) : q - r * (q - p) ≤ b ↔ (q - b) / (q - p) ≤ r := by
  rw [div_le_iff₀ (sub_pos.2 h), sub_le_comm]

/-- every point of `(p, q]` is hit, by the draw `(q - y) / (q - p)` -/
theorem lerpRev_onto (h : p < q) (hy : p < y ∧ y ≤ q) : ∃ r, 0 ≤ r ∧ r < 1 ∧ q - r * (q - p) = y :=
  ⟨(q - y) / (q - p), div_nonneg (sub_nonneg.2 hy.2) (sub_pos.2 h).le,
    (div_lt_one (sub_pos.2 h)).2 (sub_lt_sub_left hy.1 q),
    by rw [div_mul_cancel₀ _ (sub_pos.2 h).ne', sub_sub_cancel]⟩

end Pymoode
