/-
`Ext α` (a finite value or `+inf`) ordered by `Ext.lt` / `extLe` is a linear order with `top` as greatest element.
The facts about that order, and about `isTop` under the operations of `Ext`, are case analyses on the two
constructors, done here once; likewise that dividing by a positive constant keeps the order and distributes over
`Ext.add`.
-/
import PymoodeModel.Metrics.Prune
import Mathlib.Algebra.Order.Field.Basic

namespace Pymoode

theorem Ext.isTop_iff {α : Type} {a : Ext α} : a.isTop = true ↔ a = Ext.top := by
  cases a <;> simp [Ext.isTop]

theorem Ext.isTop_add {α : Type} [Add α] (a b : Ext α) : (Ext.add a b).isTop = (a.isTop || b.isTop) := by
  cases a <;> cases b <;> rfl

theorem Ext.isTop_mapFin {α : Type} (g : α → α) (a : Ext α) : (Ext.mapFin g a).isTop = a.isTop := by
  cases a <;> rfl

section Order
variable {α : Type} [LinearOrder α]

@[simp] theorem Ext.lt_fin_fin (a b : α) : Ext.lt (Ext.fin a) (Ext.fin b) = decide (a < b) := rfl
@[simp] theorem Ext.lt_fin_top (a : α) : Ext.lt (Ext.fin a) Ext.top = true := rfl
@[simp] theorem Ext.lt_top (a : Ext α) : Ext.lt Ext.top a = false := rfl

theorem extLe_fin_fin (a b : α) : extLe (Ext.fin a) (Ext.fin b) = true ↔ a ≤ b := by simp [extLe]

theorem extLe_top (a : Ext α) : extLe a Ext.top = true := by cases a <;> rfl

theorem extLe_top_left {a : Ext α} : extLe Ext.top a = true ↔ a = Ext.top := by cases a <;> simp [extLe]

theorem extLe_iff_not_lt (a b : Ext α) : extLe a b = true ↔ Ext.lt b a = false := by simp [extLe]

theorem extLe_of_lt {a b : Ext α} (h : Ext.lt a b = true) : extLe a b = true := by
  cases a <;> cases b <;> simp_all [extLe, le_of_lt]

theorem extLe_total (a b : Ext α) : (extLe a b || extLe b a) = true := by
  cases a <;> cases b <;> simp [extLe, le_total]

theorem extLe_refl (a : Ext α) : extLe a a = true := by simpa using extLe_total a a

theorem extLe_trans (a b c : Ext α) (h1 : extLe a b = true) (h2 : extLe b c = true) : extLe a c = true := by
  cases a <;> cases b <;> cases c <;> simp_all [extLe]
  exact le_trans h1 h2

theorem extLe_antisymm (a b : Ext α) (h1 : extLe a b = true) (h2 : extLe b a = true) : a = b := by
  cases a <;> cases b <;> simp_all [extLe]
  exact le_antisymm h1 h2

theorem Ext.lt_of_le_of_ne {a b : Ext α} (h : extLe a b = true) (hne : a ≠ b) : Ext.lt a b = true := by
  cases a <;> cases b <;> simp_all [extLe]
  exact _root_.lt_of_le_of_ne h hne

/-- nothing is strictly above `+inf`: what is not below an infinite value is infinite -/
theorem Ext.isTop_of_lt_eq_false {a b : Ext α} (h : Ext.lt a b = false) (hb : b.isTop = true) : a.isTop = true := by
  rw [Ext.isTop_iff] at hb ⊢
  exact extLe_top_left.mp ((extLe_iff_not_lt _ _).mpr (hb ▸ h))

end Order

section Field
variable {α : Type} [Field α] [LinearOrder α] [IsStrictOrderedRing α]

theorem Ext.lt_mapFin_div (c : α) (hc : 0 < c) (a b : Ext α) :
    Ext.lt (Ext.mapFin (· / c) a) (Ext.mapFin (· / c) b) = Ext.lt a b := by
  cases a with
  | top => rfl
  | fin x =>
    cases b with
    | top => rfl
    | fin y => exact decide_eq_decide.mpr (div_lt_div_iff_of_pos_right hc)

theorem extLe_mapFin_div (c : α) (hc : 0 < c) (a b : Ext α) :
    extLe (Ext.mapFin (· / c) a) (Ext.mapFin (· / c) b) = extLe a b :=
  congrArg (!·) (Ext.lt_mapFin_div c hc b a)

end Field

theorem Ext.mapFin_div_add {α : Type} [Field α] (c : α) (a b : Ext α) :
    Ext.mapFin (· / c) (Ext.add a b) = Ext.add (Ext.mapFin (· / c) a) (Ext.mapFin (· / c) b) := by
  cases a with
  | top => rfl
  | fin x =>
    cases b with
    | top => rfl
    | fin y => exact congrArg Ext.fin (add_div x y c)

theorem getD_map_mapFin {α : Type} (g : α → α) (d : List (Ext α)) (j : Nat) :
    (d.map (Ext.mapFin g)).getD j Ext.top = Ext.mapFin g (d.getD j Ext.top) := by
  rw [List.getD_eq_getElem?_getD, List.getD_eq_getElem?_getD, List.getElem?_map]
  cases d[j]? <;> rfl

end Pymoode
