/-
C12  Trial vectors inherit every coordinate from target or mutant.
Then the two masks of `pymoode/operators/dex.py` at CR = 0 and CR = 1; the exponential loop is a fold over the positions
`(start + j) % n`, `j < expLen` (`expFill_eq_foldl`), hence one circular block (`expRow_block`).
-/
import PymoodeModel.Crossover
import PymoodeProofs.Lib.List
import Mathlib.Algebra.Order.Field.Basic

set_option linter.unusedSectionVars false

namespace Pymoode
namespace C12

variable {α : Type} [Field α] [LinearOrder α] [IsStrictOrderedRing α]

/-- every coordinate of a trial is copied (not computed) from its target or its mutant -/
theorem trial_coord_cases {β : Type} (m : Bool) (x v : β) :
    (m = true ∧ trialCoord m x v = v) ∨ (m = false ∧ trialCoord m x v = x) := by
  cases m <;> simp [trialCoord]

theorem trialRow_eq_zipWith {β : Type} : ∀ (ms : List Bool) (xs vs : List β),
    trialRow ms xs vs = List.zipWith (fun m (p : β × β) => trialCoord m p.1 p.2) ms (xs.zip vs) := by
  intro ms
  induction ms with
  | nil => exact fun _ _ => rfl
  | cons m ms ih =>
    rintro (_ | ⟨x, xs⟩) (_ | ⟨v, vs⟩)
    · rfl
    · rfl
    · rfl
    · rw [trialRow, List.zip_cons_cons, List.zipWith_cons_cons, ih xs vs]

theorem trialRow_length {β : Type} : ∀ (ms : List Bool) (xs vs : List β),
    ms.length = xs.length → xs.length = vs.length → (trialRow ms xs vs).length = xs.length := by
  intro ms xs vs h1 h2
  rw [trialRow_eq_zipWith, List.length_zipWith, List.length_zip, h1, ← h2, Nat.min_self, Nat.min_self]

theorem trialRow_get {β : Type} : ∀ (ms : List Bool) (xs vs : List β) (i : Nat)
    (hm : i < ms.length) (hx : i < xs.length) (hv : i < vs.length) (hu : i < (trialRow ms xs vs).length),
    (trialRow ms xs vs)[i] = if ms[i] then vs[i] else xs[i] := by
  intro ms xs vs i hm hx hv hu
  simp only [trialRow_eq_zipWith, List.getElem_zipWith, List.getElem_zip, trialCoord]

theorem mem_trialRow {β : Type} (ms : List Bool) (xs vs : List β) (u : β) (hu : u ∈ trialRow ms xs vs) :
    u ∈ xs ∨ u ∈ vs := by
  fun_induction trialRow ms xs vs with
  | case1 m ms x xs v vs ih =>
    rcases List.mem_cons.1 hu with rfl | hu
    · cases m
      · exact .inl List.mem_cons_self
      · exact .inr List.mem_cons_self
    · exact (ih hu).imp (List.mem_cons_of_mem x) (List.mem_cons_of_mem v)
  | case2 => exact absurd hu List.not_mem_nil

theorem forceOne_noop (m : List Bool) (k : Nat) (h : m.any id = true) : forceOne m k = m := if_pos h

theorem forceOne_of_not_any {m : List Bool} (k : Nat) (h : m.any id = false) : forceOne m k = m.set k true :=
  if_neg (h ▸ Bool.false_ne_true)

/-- after `row_at_least_once_true` a row has at least one `True` (the drawn index is valid) -/
theorem forceOne_any (m : List Bool) (k : Nat) (hk : k < m.length) : (forceOne m k).any id = true := by
  cases h : m.any id
  · exact forceOne_of_not_any k h ▸ List.any_eq_true.mpr ⟨true, List.mem_set hk true, rfl⟩
  · rwa [forceOne_noop m k h]

theorem forceOne_length (m : List Bool) (k : Nat) : (forceOne m k).length = m.length := by
  cases h : m.any id
  · rw [forceOne_of_not_any k h, List.length_set]
  · rw [forceOne_noop m k h]

theorem forceOne_count_of_all_false (m : List Bool) (k : Nat) (h : ∀ b ∈ m, b = false) (hk : k < m.length) :
    (forceOne m k).count true = 1 := by
  have hany : m.any id = false := List.any_eq_false.mpr fun b hb => by simp [h b hb]
  have hcount : m.count true = 0 := List.count_eq_zero.mpr fun hm => Bool.noConfusion (h true hm)
  rw [forceOne_of_not_any k hany, List.count_set hk, hcount]
  simp

/-- binomial, CR = 1: every coordinate is taken from the mutant (draws are `< 1`) -/
theorem bin_cr_one (rs : List α) (h : ∀ r ∈ rs, r < 1) : ∀ b ∈ binRow (1:α) rs, b = true :=
  List.forall_mem_map.mpr fun r hr => decide_eq_true (h r hr)

/-- binomial, CR = 0: nothing is drawn (draws are `≥ 0`) … -/
theorem bin_cr_zero (rs : List α) (h : ∀ r ∈ rs, 0 ≤ r) : ∀ b ∈ binRow (0:α) rs, b = false :=
  List.forall_mem_map.mpr fun r hr => decide_eq_false (not_lt.mpr (h r hr))

/-- … so exactly the forced coordinate is taken: **CR = 0 ⇒ exactly one mutant coordinate** -/
theorem bin_cr_zero_exactly_one (rs : List α) (k : Nat) (h : ∀ r ∈ rs, 0 ≤ r) (hk : k < rs.length) :
    (forceOne (binRow (0:α) rs) k).count true = 1 :=
  forceOne_count_of_all_false _ k (bin_cr_zero rs h) (by simpa [binRow] using hk)

/-! ### exponential crossover -/

theorem le_expLen_iff (cr : α) : ∀ (n : Nat) (rs : List α) (k : Nat),
    k ≤ expLen cr n rs ↔ k ≤ n ∧ k ≤ rs.length ∧ ∀ i (_ : i < k) (h2 : i < rs.length), rs[i] < cr := by
  intro n rs k
  induction k generalizing n rs with
  | zero => simp
  | succ k ih =>
    fun_cases expLen cr n rs with
    | case1 => exact iff_of_false (Nat.not_succ_le_zero k) fun h => Nat.not_succ_le_zero k h.1
    | case2 => exact iff_of_false (Nat.not_succ_le_zero k) fun h => Nat.not_succ_le_zero k h.2.1
    | case3 n r rs hr =>
      rw [Nat.succ_le_succ_iff, ih n rs]
      refine and_congr Nat.succ_le_succ_iff.symm (and_congr Nat.succ_le_succ_iff.symm
        ⟨fun h i hi h2 => ?_, fun h i hi h2 => h (i + 1) (Nat.succ_lt_succ hi) (Nat.succ_lt_succ h2)⟩)
      cases i with
      | zero => exact hr
      | succ i => exact h i (Nat.lt_of_succ_lt_succ hi) _
    | case4 n r rs hr =>
      exact iff_of_false (Nat.not_succ_le_zero k) fun h => hr (h.2.2 0 (Nat.succ_pos k) (Nat.succ_pos _))

theorem expLen_le (cr : α) : ∀ (n : Nat) (rs : List α), expLen cr n rs ≤ n :=
  fun n rs => ((le_expLen_iff cr n rs _).mp (Nat.le_refl _)).1

set_option linter.unusedVariables false in -- the binder `h` inside the statement
/-- block length ≥ k  ⇔  the first k draws are all `< CR` (for k ≤ n and enough draws) -/
theorem expLen_ge_iff (cr : α) : ∀ (n : Nat) (rs : List α) (k : Nat), k ≤ n → k ≤ rs.length →
    (k ≤ expLen cr n rs ↔ ∀ i (h : i < k), ∀ (h2 : i < rs.length), rs[i] < cr) :=
  fun n rs k hn hl => (le_expLen_iff cr n rs k).trans ⟨fun h => h.2.2, fun h => ⟨hn, hl, h⟩⟩

/-- exponential, CR = 1: the block has full length -/
theorem exp_cr_one (n : Nat) (rs : List α) (hl : n ≤ rs.length) (h : ∀ r ∈ rs, r < 1) :
    expLen (1:α) n rs = n :=
  Nat.le_antisymm (expLen_le 1 n rs)
    ((le_expLen_iff 1 n rs n).mpr ⟨Nat.le_refl n, hl, fun _ _ h2 => h _ (List.getElem_mem h2)⟩)

/-- exponential, CR = 0: the block is empty (with `expRow_block`: no coordinate is taken before the forced one) -/
theorem exp_cr_zero (n : Nat) (rs : List α) (h : ∀ r ∈ rs, 0 ≤ r) : expLen (0:α) n rs = 0 := by
  refine Nat.eq_zero_of_not_pos fun hpos => ?_
  -- a non-empty block would start with a draw below 0
  obtain ⟨_, hl, h0⟩ := (le_expLen_iff 0 n rs 1).mp hpos
  exact absurd (h0 0 Nat.one_pos hl) (not_lt.mpr (h _ (List.getElem_mem hl)))

/-- the loop of `cross_exp` in closed form -/
theorem expFill_eq_foldl (cr : α) (n start k j : Nat) (rs : List α) (m : List Bool) :
    expFill cr n start k j rs m =
      ((List.range' j (expLen cr k rs)).map fun j' => (start + j') % n).foldl (fun m p => m.set p true) m := by
  fun_induction expFill cr n start k j rs m with
  | case1 => rfl
  | case2 => rfl
  | case3 k j r rs m hr ih => rw [expLen, if_pos hr, List.range'_succ, List.map_cons, List.foldl_cons, ih]
  | case4 k j r rs m hr => rw [expLen, if_neg hr]; rfl

theorem foldl_set_true (items : List Nat) (l : List Bool) (j : Nat) :
    (items.foldl (fun l i => l.set i true) l)[j]? = some true ↔ l[j]? = some true ∨ (j ∈ items ∧ j < l.length) := by
  rw [getElem?_foldl_set (fun _ => true)]
  by_cases h : j ∈ items
  · rw [if_pos h]
    rcases Nat.lt_or_ge j l.length with hj | hj
    · rw [List.getElem?_eq_getElem hj]; exact ⟨fun _ => .inr ⟨h, hj⟩, fun _ => rfl⟩
    · rw [List.getElem?_eq_none hj]
      exact ⟨nofun, fun h' => h'.elim nofun fun h'' => absurd h''.2 (Nat.not_lt.mpr hj)⟩
  · rw [if_neg h]; exact ⟨.inl, fun h' => h'.resolve_right fun hj => h hj.1⟩

set_option linter.unusedVariables false in -- `hn` is not needed (it follows from `hc`)
/-- `expFill_eq_foldl` read position by position -/
theorem expFill_get (cr : α) (n start : Nat) (hn : 0 < n) :
    ∀ (k j : Nat) (rs : List α) (m : List Bool), m.length = n → ∀ (c : Nat) (hc : c < n),
      ((expFill cr n start k j rs m)[c]? = some true ↔
        (m[c]? = some true ∨ ∃ j', j ≤ j' ∧ j' < j + expLen cr k rs ∧ (start + j') % n = c)) := by
  intro k j rs m hm c hc
  rw [expFill_eq_foldl, foldl_set_true]
  simp only [List.mem_map, List.mem_range'_1, hm, hc, and_true, and_assoc]

/-- **one circularly contiguous block**: coordinate `c` is taken from the mutant iff
`c = (start + j) % n` for some `j` below the block length `L = expLen` (`L ≤ n` is `expLen_le`) -/
theorem expRow_block (cr : α) (n start : Nat) (rs : List α) (c : Nat) (hc : c < n) :
    ((expRow cr n start rs)[c]? = some true ↔ ∃ j, j < expLen cr n rs ∧ (start + j) % n = c) := by
  rw [expRow, expFill_get cr n start (Nat.zero_lt_of_lt hc) n 0 rs _ List.length_replicate c hc, List.getElem?_replicate,
    if_pos hc]
  simp

example : expRow (1/2 : ℚ) 5 3 [1/10, 1/5, 9/10] = [false, false, false, true, true] := by
  decide +kernel
example : forceOne (binRow (0:ℚ) [3/10, 7/10]) 1 = [false, true] := by
  decide +kernel

end C12
end Pymoode
