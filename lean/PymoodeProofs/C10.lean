/-
C10  Mutants follow the DE formula with scale factors in range.
Dither and jitter are the increasing affine map of `Lib/Affine.lean` (`jitter_eq` puts jitter in that form; C19 uses
it again).
-/
import PymoodeModel.Mutation
import PymoodeModel.Selection
import PymoodeProofs.Lib.Affine
import Mathlib.Tactic.Ring

set_option linter.unusedSectionVars false

namespace Pymoode
namespace C10

variable {α : Type} [Field α] [LinearOrder α] [IsStrictOrderedRing α]

theorem sumDiffs_eq_sum (ts : List (DiffTerm α)) : sumDiffs ts = (ts.map diffTerm).sum := by
  rw [List.sum_eq_foldl, List.foldl_map]; rfl

/-- **DE formula**: mutant = base + Σ_k (effective scale factor)_k · (x_{2k-1} − x_{2k}) -/
theorem mutant_formula (x0 : α) (ts : List (DiffTerm α)) :
    mutant x0 ts = x0 + (ts.map diffTerm).sum := by
  unfold mutant; rw [sumDiffs_eq_sum]

/-- scalar F and no jitter: each term is exactly `F · (xi − xj)` -/
theorem diffTerm_exact (F xi xj : α) :
    diffTerm { F := F, jit := none, xi := xi, xj := xj } = F * (xi - xj) := rfl

/-- with jitter the effective factor is `F · (1 + γ (r − ½))` -/
theorem diffTerm_jitter (F γ r xi xj : α) :
    diffTerm { F := F, jit := some (γ, r), xi := xi, xj := xj } = (F * (1 + γ * (r - 1 / 2))) * (xi - xj) := rfl

theorem dither_range (lo hi r : α) (h : lo ≤ hi) (hr0 : 0 ≤ r) (hr1 : r < 1) :
    lo ≤ scaleDither lo hi r ∧ scaleDither lo hi r ≤ hi :=
  lerp_mem h hr0 hr1.le

/-- the unset scale factor `F = None` is dithered over `[0, 1]` -/
theorem default_F_range (r : α) (hr0 : 0 ≤ r) (hr1 : r < 1) :
    0 ≤ scaleDither (0:α) 1 r ∧ scaleDither (0:α) 1 r ≤ 1 :=
  dither_range 0 1 r zero_le_one hr0 hr1

/-- jitter is the increasing affine map of the draw onto `[1 - γ/2, 1 + γ/2]` -/
theorem jitter_eq (γ r : α) : jitterFactor γ r = (1 - γ / 2) + r * ((1 + γ / 2) - (1 - γ / 2)) := by
  unfold jitterFactor; ring

theorem jitter_ends {γ : α} (hγ : 0 < γ) : 1 - γ / 2 < 1 + γ / 2 :=
  have h := half_pos hγ
  (sub_lt_self 1 h).trans (lt_add_of_pos_right 1 h)

/-- jitter perturbs the factor relatively by at most `γ/2` in either direction -/
theorem jitter_range (γ r : α) (hγ : 0 ≤ γ) (hr0 : 0 ≤ r) (hr1 : r < 1) :
    1 - γ / 2 ≤ jitterFactor γ r ∧ jitterFactor γ r ≤ 1 + γ / 2 := by
  have h : 0 ≤ γ / 2 := div_nonneg hγ zero_le_two
  rw [jitter_eq]
  exact lerp_mem ((sub_le_self 1 h).trans (le_add_of_nonneg_right h)) hr0 hr1.le

theorem jitter_centre (γ : α) : jitterFactor γ (1 / 2) = 1 := by
  rw [jitterFactor, sub_self, mul_zero, add_zero]

/-- variant-string parsing: `y` differences, plus the directional one for the '-to-' selections -/
theorem nParents_eq (k : SelKind) (y : Nat) :
    nParents k y = 1 + 2 * (y + (if k.isTo then 1 else 0)) := by
  unfold nParents nDiffs
  cases k <;> simp [SelKind.isTo]

/-- the difference pairs are (1,2), (3,4), … -/
theorem pairs_get (nPar k : Nat) (h : k < (nPar - 1) / 2) :
    (pairs nPar)[k]'(by simpa [pairs] using h) = (2 * k + 1, 2 * k + 2) := by
  simp [pairs]

theorem pairs_length (nPar : Nat) : (pairs nPar).length = (nPar - 1) / 2 := by simp [pairs]

example : nParents .randToBest 1 = 5 ∧ nParents .rand 2 = 5 ∧ nParents .currentToRand 2 = 7 := by
  decide

example : pairs 7 = [(1, 2), (3, 4), (5, 6)] := by decide

end C10
end Pymoode
