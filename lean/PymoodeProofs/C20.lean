/-
C20  Spacing indicator equals the RMS deviation of neighbour distances.
`spacingSq_eq` is that statement, under the root; `sqrt` is an abstract function with exactly the hypotheses used.
`secondSmallest_eq_min_other` is C14's clause on the compiled spacing helper.
-/
import PymoodeModel.Spacing
import PymoodeProofs.Lib.List
import Mathlib.Algebra.Order.Field.Basic
import Mathlib.Algebra.BigOperators.Ring.List
import Mathlib.Algebra.Order.BigOperators.Group.List
import Mathlib.Algebra.Field.Rat
import Mathlib.Algebra.Order.Ring.Rat

set_option linter.unusedSectionVars false

namespace Pymoode
namespace C20

variable {α : Type} [Field α] [LinearOrder α] [IsStrictOrderedRing α]

theorem sumL_eq (l : List α) : sumL l = l.sum := List.sum_eq_foldl.symm

theorem sum_scale (c : α) (l : List α) : (l.map (c * ·)).sum = c * l.sum := by
  simpa using List.sum_map_mul_left l id c

theorem absDiff_eq (a b : α) : absDiff a b = |a - b| := by
  unfold absDiff
  split
  · rename_i h
    rw [abs_sub_comm, abs_of_nonneg (sub_nonneg.mpr h.le)]
  · rename_i h
    rw [abs_of_nonneg (sub_nonneg.mpr (not_lt.mp h))]

theorem spacingSq_eq (cnt : α) (d : List α) :
    spacingSq cnt d = (d.map fun x => (x - d.sum / cnt) * (x - d.sum / cnt)).sum / cnt := by
  simp only [spacingSq, sumL_eq]

/-- the squared spacing is a mean of squares: non-negative (for `cnt > 0`) -/
theorem spacingSq_nonneg (cnt : α) (hc : 0 < cnt) (d : List α) : 0 ≤ spacingSq cnt d := by
  rw [spacingSq_eq]
  exact div_nonneg (List.sum_nonneg (List.forall_mem_map.mpr fun x _ => mul_self_nonneg _)) hc.le

theorem spacing_nonneg (sqrt : α → α) (hs : ∀ x, 0 ≤ x → 0 ≤ sqrt x) (cnt : α) (hc : 0 < cnt) (d : List α) :
    0 ≤ spacing sqrt cnt d :=
  hs _ (spacingSq_nonneg cnt hc d)

/-- **zero for equally spaced points**: all nearest-neighbour distances equal ⇒ spacing 0 -/
theorem spacingSq_zero_of_equal (c : α) (n : Nat) (hn : 0 < n) :
    spacingSq (n : α) (List.replicate n c) = 0 := by
  have hn' : (n : α) ≠ 0 := Nat.cast_ne_zero.mpr hn.ne'
  -- the mean is `c`, so every deviation is `0`
  rw [spacingSq_eq, List.sum_replicate, nsmul_eq_mul, mul_div_cancel_left₀ c hn', List.map_replicate, sub_self,
    mul_zero, List.sum_replicate, nsmul_zero, zero_div]

theorem spacing_zero_of_equal (sqrt : α → α) (h0 : sqrt 0 = 0) (c : α) (n : Nat) (hn : 0 < n) :
    spacing sqrt (n : α) (List.replicate n c) = 0 := by
  unfold spacing; rw [spacingSq_zero_of_equal c n hn, h0]

example : spacingSq (3:ℚ) [1, 1, 1] = 0 := by
  have := spacingSq_zero_of_equal (1:ℚ) 3 (by decide)
  simpa using this

/-- **reordering**: the value depends only on the multiset of neighbour distances -/
theorem spacingSq_perm (cnt : α) (d d' : List α) (h : d.Perm d') : spacingSq cnt d = spacingSq cnt d' := by
  rw [spacingSq_eq, spacingSq_eq, h.sum_eq, (h.map _).sum_eq]

/-! ### translation: the three metrics only see coordinate differences -/

theorem absDiff_translate (a b t : α) : absDiff (a + t) (b + t) = absDiff a b := by
  rw [absDiff_eq, absDiff_eq, add_sub_add_right_eq_sub]

theorem zipWith_translate {γ : Type} (g : α → α → γ) (hg : ∀ x y s, g (x + s) (y + s) = g x y)
    (a b t : List α) (h1 : a.length = t.length) (h2 : b.length = t.length) :
    List.zipWith g (List.zipWith (· + ·) a t) (List.zipWith (· + ·) b t) = List.zipWith g a b := by
  apply List.ext_getElem (by simp [h1, h2])
  intro i _ _
  simp only [List.getElem_zipWith, hg]

theorem cityblock_translate (a b t : List α) (h1 : a.length = t.length) (h2 : b.length = t.length) :
    cityblock (List.zipWith (· + ·) a t) (List.zipWith (· + ·) b t) = cityblock a b := by
  unfold cityblock; rw [zipWith_translate _ absDiff_translate _ _ _ h1 h2]

theorem chebyshev_translate (a b t : List α) (h1 : a.length = t.length) (h2 : b.length = t.length) :
    chebyshev (List.zipWith (· + ·) a t) (List.zipWith (· + ·) b t) = chebyshev a b := by
  unfold chebyshev; rw [zipWith_translate _ absDiff_translate _ _ _ h1 h2]

theorem sqEuclid_translate : ∀ (a b t : List α), a.length = t.length → b.length = t.length →
    sqEuclid (List.zipWith (· + ·) a t) (List.zipWith (· + ·) b t) = sqEuclid a b := by
  intro a b t h1 h2
  unfold sqEuclid
  rw [zipWith_translate _ (fun x y s => by rw [add_sub_add_right_eq_sub]) a b t h1 h2]

/-! ### uniform scaling by `c ≥ 0`: the cityblock distance (the other two metrics are not treated), then the spacing -/

theorem absDiff_scale (c a b : α) (hc : 0 ≤ c) : absDiff (c * a) (c * b) = c * absDiff a b := by
  rw [absDiff_eq, absDiff_eq, ← mul_sub, abs_mul, abs_of_nonneg hc]

theorem cityblock_scale (c : α) (hc : 0 ≤ c) : ∀ (a b : List α),
    cityblock (a.map (c * ·)) (b.map (c * ·)) = c * cityblock a b := by
  intro a b
  unfold cityblock
  rw [← List.sum_eq_foldl, ← List.sum_eq_foldl, List.zipWith_map]
  simp only [absDiff_scale c _ _ hc]
  rw [← List.map_zipWith (f := (c * ·)), sum_scale]

/-- neighbour distances scaled by `c` ⇒ squared spacing scaled by `c²`, spacing by `c` -/
theorem spacingSq_scale (cnt c : α) (d : List α) :
    spacingSq cnt (d.map (c * ·)) = c * c * spacingSq cnt d := by
  -- the mean scales by `c`, so every deviation does, and every squared deviation scales by `c * c`
  have hdev : ∀ x, (c * x - c * d.sum / cnt) * (c * x - c * d.sum / cnt) =
      c * c * ((x - d.sum / cnt) * (x - d.sum / cnt)) := fun x => by
    rw [mul_div_assoc, ← mul_sub, mul_mul_mul_comm]
  rw [spacingSq_eq, spacingSq_eq, sum_scale, List.map_map]
  simp only [Function.comp_def, hdev]
  rw [List.sum_map_mul_left, mul_div_assoc]

theorem spacing_scale (sqrt : α → α) (hsq : ∀ c x, 0 ≤ c → 0 ≤ x → sqrt (c * c * x) = c * sqrt x)
    (cnt : α) (hcnt : 0 < cnt) (c : α) (hc : 0 ≤ c) (d : List α) :
    spacing sqrt cnt (d.map (c * ·)) = c * spacing sqrt cnt d := by
  unfold spacing
  rw [spacingSq_scale, hsq c _ hc (spacingSq_nonneg cnt hcnt d)]

/-! ### zero-to-one normalisation

The value is the spacing of the rescaled objectives by definition of the indicator (`Indicator.do` rescales, then
`_do`); what is proved is the rescaling of one coordinate. -/

theorem normCoord_eq (ideal nadir x : α) (h : ideal ≠ nadir) :
    normCoord ideal nadir x = (x - ideal) / (nadir - ideal) := by
  unfold normCoord
  rcases lt_or_gt_of_ne h with h1 | h1
  · rw [if_pos h1]
  · rw [if_neg h1.not_gt, if_pos h1]

theorem normCoord_ideal (ideal nadir : α) : normCoord ideal nadir ideal = 0 := by
  simp only [normCoord, sub_self, zero_div, ite_self]

theorem normCoord_nadir (ideal nadir : α) (h : ideal < nadir) : normCoord ideal nadir nadir = 1 := by
  rw [normCoord, if_pos h, div_self (sub_ne_zero.mpr h.ne')]

/-- the second-smallest entry of a row (`np.partition(D, 1)[:, 1]`) is an entry of the row -/
theorem secondSmallest_mem (l : List α) (v : α) (h : secondSmallest l = some v) : v ∈ l :=
  (List.mergeSort_perm l leB).subset (List.mem_of_getElem? h)

theorem leB_iff (a b : α) : leB a b = true ↔ a ≤ b := by
  simp [leB]

theorem sort_pairwise_le (l : List α) : (l.mergeSort leB).Pairwise (· ≤ ·) :=
  pairwise_mergeSort_of_iff leB_iff (fun _ _ _ => le_trans) le_total l

/-- **`np.partition(D, 1)[:, 1]` is the distance to the nearest *other* point, duplicates
included**: if entry `i` of a row is a minimum of the row (the zero self-distance on the diagonal),
the second smallest entry of the row is the smallest of the remaining entries -/
theorem secondSmallest_eq_min_other (l : List α) (i : Nat) (hi : i < l.length)
    (hmin : ∀ x ∈ l, l[i] ≤ x) :
    secondSmallest l = ((l.eraseIdx i).mergeSort leB)[0]? := by
  -- the minimum `l[i]` comes first in the sorted row, the sorted rest after it
  rw [secondSmallest, mergeSort_eq_append_of_iff leB_iff (fun _ _ _ => le_trans) le_total (fun _ _ => le_antisymm)
    (a := [l[i]]) (List.getElem_cons_eraseIdx_perm hi).symm (List.pairwise_singleton _ _)
    fun x hx y hy => List.mem_singleton.mp hx ▸ hmin y (List.mem_of_mem_eraseIdx hy)]
  rfl

/-- non-vacuity: a row with a duplicate point (two zero entries) meets the hypothesis -/
example : ∀ x ∈ [(3:ℚ), 0, 5, 0], ([(3:ℚ), 0, 5, 0])[1] ≤ x := by
  decide

end C20
end Pymoode
