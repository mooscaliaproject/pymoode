/-
C15: one-at-a-time pruning with the **pcd** metric. Removing a non-extreme point never decreases the
crowding of the remaining points (their neighbours can only move away), so in the array `calc_pcd` returns every
pruned point keeps a value ≤ every live point's value — `RankAndCrowding`'s descending sort then drops the pruned
points first (`C15.truncation_drops_removed`). Proved for the definition's loop with its live set (`pcd_pruneLive_inv`,
field `PInv.stale`) under the hypotheses `AllMaxOnce` / `Budget` of the refinement theorem; `pcdFallback_stale_le_live` and
`pcdKernel_stale_le_live` say it of the returned arrays for *some* set `live`, which their statements do not tie to the loop.

The loop argument is independent of the metric (`stale_step`, `pruneLive_induct` of `Lib/Prune.lean`): it needs a
recomputation that leaves the values of dead points alone and never decreases the value of a live point.
-/
import PymoodeProofs.Pcd.Simulation

set_option linter.unusedSectionVars false

namespace Pymoode
namespace C15
open C13

variable {α : Type} [Field α] [LinearOrder α] [IsStrictOrderedRing α] [Inhabited α]

/-! ### pcd: removing a point never shrinks a gap -/

theorem neighbours_erase_prev (s : List Nat) (hs : s.Nodup) (r i : Nat) (hr : r ∈ s) (hi : i ∈ s)
    (hrint : Interior s r) (hiint : Interior s i) (hadj : prevOf s i = r) :
    prevOf (s.filter (· != r)) i = prevOf s r ∧ nextOf (s.filter (· != r)) i = nextOf s i :=
  have hP : Adj s r i := hadj ▸ adj_prevOf hi hiint.1
  ⟨(Adj.filter_mid hs (adj_prevOf hr hrint.1) hP).prevOf_eq (hs.filter _),
    ((adj_nextOf hiint.2).filter (hP.ne hs).symm (hadj ▸ (prevOf_ne_nextOf hs hiint).symm)).nextOf_eq (hs.filter _)⟩

set_option linter.unusedVariables false in -- `hr` is not needed
theorem neighbours_erase_next (s : List Nat) (hs : s.Nodup) (r i : Nat) (hr : r ∈ s) (hi : i ∈ s)
    (hrint : Interior s r) (hiint : Interior s i) (hadj : nextOf s i = r) :
    prevOf (s.filter (· != r)) i = prevOf s i ∧ nextOf (s.filter (· != r)) i = nextOf s r :=
  have hN : Adj s i r := hadj ▸ adj_nextOf hiint.2
  ⟨((adj_prevOf hi hiint.1).filter (hadj ▸ prevOf_ne_nextOf hs hiint) (hN.ne hs)).prevOf_eq (hs.filter _),
    (Adj.filter_mid hs hN (adj_nextOf hrint.2)).nextOf_eq (hs.filter _)⟩

theorem scol_sorted (f : List (List α)) (M m : Nat) (hm : m < M) (live : List Nat) (hl : LiveOK f M live)
    (a b : Nat) (hab : a < b) (hb : b < (Scol f m live).length) :
    xAt (normalizeCols f M) ((Scol f m live).getD a 0) m ≤ xAt (normalizeCols f M) ((Scol f m live).getD b 0) m := by
  have ha : a < (Scol f m live).length := Nat.lt_trans hab hb
  rw [List.getD_eq_getElem _ _ ha, List.getD_eq_getElem _ _ hb]
  -- sorted on the raw values, and the normalisation is monotone
  have hle := (leBy_iff _ _ _).mp (List.pairwise_iff_getElem.mp (sortedLive_lex (vf f m) live hl.pw) a b ha hb hab).1
  rw [vf_eq_xAt f, vf_eq_xAt f] at hle
  have hlt := fun c (hc : c < (Scol f m live).length) => hl.lt _ ((sortedLive_mem _ _ _).mp (List.getElem_mem hc))
  exact not_lt.mp fun h => absurd hle (not_le.mpr ((normalize_lt_iff f M m hm _ _ (hlt b hb) (hlt a ha)).mp h))

theorem prev_le_self_le_next (f : List (List α)) (M m : Nat) (hm : m < M) (live : List Nat) (hl : LiveOK f M live)
    (i : Nat) (hint : Interior (Scol f m live) i) :
    xAt (normalizeCols f M) (prevOf (Scol f m live) i) m ≤ xAt (normalizeCols f M) i m ∧
    xAt (normalizeCols f M) i m ≤ xAt (normalizeCols f M) (nextOf (Scol f m live) i) m := by
  have hp := Nat.lt_of_succ_lt hint.2
  have h1 := scol_sorted f M m hm live hl ((Scol f m live).idxOf i - 1) _ (Nat.sub_lt hint.1 Nat.one_pos) hp
  have h2 := scol_sorted f M m hm live hl _ ((Scol f m live).idxOf i + 1) (Nat.lt_succ_self _) hint.2
  rw [getD_idxOf hint.mem] at h1 h2
  exact ⟨h1, h2⟩

/-- **removing a non-extreme point never shrinks a remaining non-extreme point's gap** in any objective -/
theorem gapF_mono (f : List (List α)) (M : Nat) (live : List Nat) (hl : LiveOK f M live) (hmax : AllMaxOnce f M)
    (r : Nat) (hr : r ∈ live) (hrne : r ∉ extremesFirst f M) (i : Nat) (hi : i ∈ live) (hir : i ≠ r)
    (hine : i ∉ extremesFirst f M) (m : Nat) (hm : m < M) :
    gapF f M live i m ≤ gapF f M (live.filter (· != r)) i m := by
  obtain ⟨hnd, _, _, himem, hi0, hi1⟩ := col_facts hl hmax hi hine hm
  obtain ⟨_, _, _, hrmem, hrint⟩ := col_facts hl hmax hr hrne hm
  obtain ⟨hr1, hr2⟩ := prev_le_self_le_next f M m hm live hl r hrint
  have hnd' := hnd.filter (· != r)
  -- if `r` was the predecessor of `i`, the new one is the predecessor of `r`, further down; else it stays
  have hp : xAt (normalizeCols f M) (prevOf ((Scol f m live).filter (· != r)) i) m ≤
      xAt (normalizeCols f M) (prevOf (Scol f m live) i) m := by
    by_cases h : prevOf (Scol f m live) i = r
    · rw [(neighbours_erase_prev _ hnd r i hrmem himem hrint ⟨hi0, hi1⟩ h).1, h]; exact hr1
    · rw [((adj_prevOf himem hi0).filter h hir).prevOf_eq hnd']
  -- the same for the successor, upwards
  have hn : xAt (normalizeCols f M) (nextOf (Scol f m live) i) m ≤
      xAt (normalizeCols f M) (nextOf ((Scol f m live).filter (· != r)) i) m := by
    by_cases h : nextOf (Scol f m live) i = r
    · rw [(neighbours_erase_next _ hnd r i hrmem himem hrint ⟨hi0, hi1⟩ h).2, h]; exact hr2
    · rw [((adj_nextOf hi1).filter hir h).nextOf_eq hnd']
  unfold gapF
  rw [Scol_filter hl]
  exact add_le_add (sub_le_sub_left hp _) (sub_le_sub_right hn _)

theorem fold_fin_mono (a b : Nat → α) : ∀ (l : List Nat) (v w : α), (∀ m ∈ l, a m ≤ b m) → v ≤ w →
    extLe (l.foldl (fun acc m => Ext.add acc (Ext.fin (a m))) (Ext.fin v))
      (l.foldl (fun acc m => Ext.add acc (Ext.fin (b m))) (Ext.fin w)) = true := by
  intro l
  induction l with
  | nil => exact fun v w _ hvw => (extLe_fin_fin v w).mpr hvw
  | cons m t ih =>
    exact fun _ _ h hvw => ih _ _ (fun k hk => h k (List.mem_cons_of_mem _ hk)) (add_le_add hvw (h m List.mem_cons_self))

theorem sumF_mono (f : List (List α)) (M : Nat) (live : List Nat) (hl : LiveOK f M live) (hmax : AllMaxOnce f M)
    (r : Nat) (hr : r ∈ live) (hrne : r ∉ extremesFirst f M) (i : Nat) (hi : i ∈ live) (hir : i ≠ r)
    (hine : i ∉ extremesFirst f M) :
    extLe (sumF f M live i) (sumF f M (live.filter (· != r)) i) = true :=
  fold_fin_mono _ _ _ _ _ (fun m hm => gapF_mono f M live hl hmax r hr hrne i hi hir hine m (List.mem_range.mp hm))
    (le_refl _)

/-- what `stale_step` asks of a recomputation -/
theorem recompute_mono {f : List (List α)} {M : Nat} {live : List Nat} (hl : LiveOK f M live) (hmax : AllMaxOnce f M)
    {D : List (Ext α)} (hD : IsScratch f M live D) {r : Nat} (hr : r ∈ live) (hrne : r ∉ extremesFirst f M) :
    (∀ k, k < f.length → k ∉ live.filter (· != r) →
      (recomputeF f M (live.filter (· != r)) D).getD k Ext.top = D.getD k Ext.top) ∧
    ∀ i ∈ live.filter (· != r),
      extLe (D.getD i Ext.top) ((recomputeF f M (live.filter (· != r)) D).getD i Ext.top) = true := by
  have hl' := liveOK_filter hl hrne
  unfold recomputeF
  rw [pcdScratch_eq_sumF hl' hmax]
  refine scratchArr_stale_step (fun k hk _ => scratch_get_ex hl hmax hD hk) hl'.lt fun i hi hie => ?_
  rw [scratch_get_live hl hmax hD hie (mem_filter_ne.mp hi).1]
  exact sumF_mono f M live hl hmax r hr hrne i (mem_filter_ne.mp hi).1 (mem_filter_ne.mp hi).2 hie

/-! ### the loop with the pcd recomputation -/

/-- invariant of the definition's removal loop: the array is a from-scratch recomputation on the live set, and
every removed point's (stale) value is ≤ every live point's value -/
structure PInv (f : List (List α)) (M : Nat) (live : List Nat) (dF : List (Ext α)) : Prop where
  scratch : ∃ old, dF = pcdScratch (normalizeCols f M) live M (extremesFirst f M) f.length old
  stale : ∀ k, k < f.length → k ∉ live → ∀ i ∈ live, extLe (dF.getD k Ext.top) (dF.getD i Ext.top) = true

theorem pinv_step (f : List (List α)) (M : Nat) (hmax : AllMaxOnce f M) (live : List Nat) (dF : List (Ext α))
    (hl : LiveOK f M live) (hinv : PInv f M live dF) (j : Nat) (hj : j ∈ live) (hjne : j ∉ extremesFirst f M) :
    ∃ r, dropLast dF live = some r ∧ r ∈ live ∧ r ∉ extremesFirst f M ∧
      PInv f M (live.filter (· != r)) (recomputeF f M (live.filter (· != r)) dF) := by
  obtain ⟨r, hr, hrl, hrne⟩ := drop_nonextreme hl hmax hinv.scratch hj hjne
  obtain ⟨hdead, hgrow⟩ := recompute_mono hl hmax hinv.scratch hrl hrne
  exact ⟨r, hr, hrl, hrne, ⟨_, rfl⟩, stale_step hinv.stale hr hdead hgrow⟩

/-- the loop removes non-extreme points only, so `k` of them have to be alive -/
theorem pcd_pruneLive_inv (f : List (List α)) (M : Nat) (hmax : AllMaxOnce f M) :
    ∀ (k : Nat) (live : List Nat) (dF : List (Ext α)), LiveOK f M live → PInv f M live dF →
      k ≤ (nonEx f M live).length →
      LiveOK f M (pruneLive (recomputeF f M) k live dF).1 ∧
      PInv f M (pruneLive (recomputeF f M) k live dF).1 (pruneLive (recomputeF f M) k live dF).2 ∧
      (pruneLive (recomputeF f M) k live dF).1.length = live.length - k ∧
      (nonEx f M (pruneLive (recomputeF f M) k live dF).1).length = (nonEx f M live).length - k := by
  intro k live dF hl hinv hb
  refine pruneLive_induct _ k (fun j lv dd => LiveOK f M lv ∧ PInv f M lv dd ∧ lv.length = live.length - j ∧
    (nonEx f M lv).length = (nonEx f M live).length - j) live dF ?_ ⟨hl, hinv, rfl, rfl⟩
  rintro j lv dd hj ⟨h1, h2, h3, h4⟩
  obtain ⟨i, hi⟩ := List.exists_mem_of_length_pos (h4 ▸ Nat.sub_pos_of_lt (hj.trans_le hb))
  obtain ⟨r, hr, hrl, hrne, hinv'⟩ := pinv_step f M hmax lv dd h1 h2 i (mem_nonEx.mp hi).1 (mem_nonEx.mp hi).2
  have hnd := live_nodup h1
  refine ⟨r, hr, liveOK_filter h1 hrne, hinv', ?_, ?_⟩
  · rw [length_filter_ne hnd hrl, h3, Nat.sub_add_eq]
  · rw [nonEx_filter_length hnd hrl hrne, h4, Nat.sub_add_eq]

theorem pinv_loop (f : List (List α)) (M : Nat) (hmax : AllMaxOnce f M) :
    ∀ (fuel : Nat) (live : List Nat) (dF : List (Ext α)), LiveOK f M live → PInv f M live dF →
      fuel ≤ (nonEx f M live).length →
      ∃ live', LiveOK f M live' ∧ PInv f M live' (pruneLoop (recomputeF f M) fuel live dF) :=
  fun fuel live dF hl hinv hb =>
    have ⟨hl', hinv', _⟩ := pcd_pruneLive_inv f M hmax fuel live dF hl hinv hb
    ⟨_, hl', pruneLive_snd (recomputeF f M) fuel live dF ▸ hinv'⟩

/-- in the array `calc_pcd` (the definition = the pure-Python engine) returns, the points outside *some* set `live` have
values ≤ those of its members. The proof takes the loop's live set; the statement does not say so (`pcd_pruneLive_inv` does) -/
theorem pcdFallback_stale_le_live (f : List (List α)) (M : Nat) (c : α) (nRemove : Int) (hne : f ≠ []) (hc : 0 < c)
    (hmax : AllMaxOnce f M) (hb : Budget f M nRemove) :
    ∃ live : List Nat, (∀ i ∈ live, i < f.length) ∧
      ∀ k, k < f.length → k ∉ live → ∀ i ∈ live,
        extLe ((pcdFallback f M c nRemove).getD k Ext.top) ((pcdFallback f M c nRemove).getD i Ext.top) = true := by
  obtain ⟨live', hl', hinv⟩ := pinv_loop f M hmax (clampRemove nRemove f.length M - 1).toNat _ _
    (liveOK_range f M hne) ⟨⟨_, rfl⟩, fun k hk hkl => absurd (List.mem_range.mpr hk) hkl⟩ hb
  refine ⟨live', hl'.lt, fun k hk hkl i hi => ?_⟩
  rw [pcdFallback_eq, getD_map_mapFin, getD_map_mapFin, extLe_mapFin_div c hc]
  exact hinv.stale k hk hkl i hi

/-- the same for the **compiled kernel** (through the refinement theorem) -/
theorem pcdKernel_stale_le_live (f : List (List α)) (M : Nat) (c : α) (nRemove : Int) (hne : f ≠ []) (hc : 0 < c)
    (hmax : AllMaxOnce f M) (hb : Budget f M nRemove) :
    ∃ live : List Nat, (∀ i ∈ live, i < f.length) ∧
      ∀ k, k < f.length → k ∉ live → ∀ i ∈ live,
        extLe ((pcdKernelF f M c nRemove).1.getD k Ext.top) ((pcdKernelF f M c nRemove).1.getD i Ext.top) = true := by
  rw [pcdKernelF_refines f M c nRemove hne hc hmax hb]
  exact pcdFallback_stale_le_live f M c nRemove hne hc hmax hb

end C15
end Pymoode
