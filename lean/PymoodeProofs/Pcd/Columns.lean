/-
C13 / C14 / C15: one column of the index table of the compiled pcd kernel (`pymoode/cython/pruning_cd.pyx`, functional
transcription `pcdKernelF` of `PymoodeModel/Metrics/KernelF.lean`); `Pcd/Simulation.lean` builds on it.

A column is the stable sort of the live points, padded with copies of its last entry (`padLast`); the kernel's shift and
scan keep that shape. Erasing a point changes the neighbours (`prevOf` / `nextOf`) of its own two neighbours only. The
ends of a sorted live column are the first arg-min and, **if the maximum is attained once** (`MaxOnce`; attained twice,
the last position may hold a point that is no extreme: known finding F2), the first arg-max; every other live point is
interior, and interior is what keeps the kernel's reads `I[n-1, m]`, `I[n+1, m]` (pruning_cd.pyx:152-153) in range.
-/
import PymoodeProofs.C13
import Mathlib.Data.List.TakeDrop
import PymoodeModel.Metrics.KernelF

set_option linter.unusedSectionVars false

namespace Pymoode
namespace C13

/-! ### neighbours in a duplicate-free list

`prevOf` of the head is the head itself, `nextOf` of the last entry is 0: the two cases `Interior` excludes. -/

def prevOf (s : List Nat) (i : Nat) : Nat := s.getD (s.idxOf i - 1) 0
def nextOf (s : List Nat) (i : Nat) : Nat := s.getD (s.idxOf i + 1) 0

def Interior (s : List Nat) (i : Nat) : Prop := 0 < s.idxOf i ∧ s.idxOf i + 1 < s.length

theorem Interior.mem {s : List Nat} {i : Nat} (h : Interior s i) : i ∈ s :=
  List.idxOf_lt_length_iff.mp (Nat.lt_of_succ_lt h.2)

theorem interior_of_ne_ends {s : List Nat} {i : Nat} (hi : i ∈ s) (hh : s.head? ≠ some i) (hl : s.getLast? ≠ some i) :
    Interior s i := by
  have hne := List.ne_nil_of_mem hi
  constructor
  · refine Nat.pos_of_ne_zero fun h0 => hh ?_
    rw [head?_eq_some_getD hne 0]
    exact congrArg some (h0 ▸ getD_idxOf hi)
  · refine Nat.lt_of_not_le fun h1 => hl ?_
    rw [getLast?_eq_some_getD hne 0, Nat.le_antisymm (Nat.sub_le_of_le_add h1)
      (Nat.le_sub_one_of_lt (List.idxOf_lt_length_of_mem hi)), getD_idxOf hi]

theorem prevOf_mem {s : List Nat} {i : Nat} (hi : i ∈ s) : prevOf s i ∈ s := getD_mem (idxOf_pred_lt hi)

theorem nextOf_mem {s : List Nat} {i : Nat} (h1 : s.idxOf i + 1 < s.length) : nextOf s i ∈ s := getD_mem h1

/-! Adjacency as a decomposition `s = l₁ ++ a :: b :: l₂`: erasing a point is list surgery. -/

/-- `b` follows `a` in `s` -/
def Adj (s : List Nat) (a b : Nat) : Prop := ∃ l₁ l₂, s = l₁ ++ a :: b :: l₂

theorem adj_getD {s : List Nat} {q : Nat} (hq : q + 1 < s.length) : Adj s (s.getD q 0) (s.getD (q + 1) 0) := by
  refine ⟨s.take q, s.drop (q + 2), ?_⟩
  rw [List.getD_eq_getElem _ _ hq, List.getD_eq_getElem _ _ (Nat.lt_of_succ_lt hq), List.getElem_cons_drop,
    List.getElem_cons_drop, List.take_append_drop]

theorem adj_prevOf {s : List Nat} {i : Nat} (hi : i ∈ s) (h0 : 0 < s.idxOf i) : Adj s (prevOf s i) i := by
  have := adj_getD (s := s) (q := s.idxOf i - 1) (by rw [Nat.sub_add_cancel h0]; exact List.idxOf_lt_length_of_mem hi)
  rwa [Nat.sub_add_cancel h0, getD_idxOf hi] at this

theorem adj_nextOf {s : List Nat} {i : Nat} (h1 : s.idxOf i + 1 < s.length) : Adj s i (nextOf s i) := by
  have := adj_getD h1
  rwa [getD_idxOf (List.idxOf_lt_length_iff.mp (Nat.lt_of_succ_lt h1))] at this

theorem Adj.filter {s : List Nat} {a b k : Nat} (h : Adj s a b) (ha : a ≠ k) (hb : b ≠ k) :
    Adj (s.filter (· != k)) a b := by
  obtain ⟨l₁, l₂, rfl⟩ := h
  exact ⟨l₁.filter (· != k), l₂.filter (· != k), by simp [ha, hb]⟩

section
variable {s : List Nat} (hs : s.Nodup) {a b c k i : Nat}
include hs

theorem Adj.idxOf (h : Adj s a b) : s.idxOf b = s.idxOf a + 1 ∧ s.idxOf a + 1 < s.length := by
  obtain ⟨l₁, l₂, rfl⟩ := h
  have h1 := List.nodup_append.mp hs
  have ha : a ∉ l₁ := fun h => h1.2.2 a h a List.mem_cons_self rfl
  have hb : b ∉ l₁ := fun h => h1.2.2 b h b (List.mem_cons_of_mem _ List.mem_cons_self) rfl
  have hab : a ≠ b := fun h => (List.nodup_cons.mp h1.2.1).1 (h ▸ List.mem_cons_self)
  rw [List.idxOf_append_of_notMem ha, List.idxOf_append_of_notMem hb, List.idxOf_cons_self, List.idxOf_cons_ne _ hab,
    List.idxOf_cons_self, List.length_append, List.length_cons, List.length_cons]
  exact ⟨rfl, Nat.add_lt_add_left (Nat.succ_lt_succ (Nat.succ_pos _)) _⟩

theorem Adj.prevOf_eq (h : Adj s a b) : prevOf s b = a := by
  have ha : a ∈ s := by obtain ⟨l₁, l₂, rfl⟩ := h; simp
  rw [prevOf, (h.idxOf hs).1, Nat.add_sub_cancel, getD_idxOf ha]

theorem Adj.nextOf_eq (h : Adj s a b) : nextOf s a = b := by
  have hb : b ∈ s := by obtain ⟨l₁, l₂, rfl⟩ := h; simp
  rw [nextOf, ← (h.idxOf hs).1, getD_idxOf hb]

theorem Adj.ne (h : Adj s a b) : a ≠ b := fun e =>
  Nat.succ_ne_self _ (e ▸ (h.idxOf hs).1).symm

theorem Adj.interior (h1 : Adj s a i) (h2 : Adj s i b) : Interior s i :=
  ⟨(h1.idxOf hs).1 ▸ Nat.succ_pos _, (h2.idxOf hs).2⟩

/-- erasing the entry between `a` and `c` makes them adjacent -/
theorem Adj.filter_mid (h1 : Adj s a k) (h2 : Adj s k c) : Adj (s.filter (· != k)) a c := by
  obtain ⟨l₁, l₂, rfl⟩ := h1
  obtain ⟨m₁, m₂, e⟩ := h2
  have hn := List.nodup_append.mp hs
  have hn2 := List.nodup_cons.mp hn.2.1
  -- `k` occurs once, so the two decompositions agree: `l₂` begins with `c`
  have hk1 : k ∉ l₁ ++ [a] := by
    rw [List.mem_append, List.mem_singleton, not_or]
    exact ⟨fun h => hn.2.2 k h k (List.mem_cons_of_mem _ List.mem_cons_self) rfl,
      fun h => hn2.1 (h ▸ List.mem_cons_self)⟩
  have hk2 : k ∉ l₂ := (List.nodup_cons.mp hn2.2).1
  rw [List.append_cons l₁ a] at e
  obtain ⟨-, -, rfl⟩ := (List.append_cons_inj_of_notMem hk1 hk2).mp e
  have hc : c ≠ k := fun h => hk2 (h ▸ List.mem_cons_self)
  have ha : a ≠ k := fun h => hn2.1 (h ▸ List.mem_cons_self)
  exact ⟨l₁.filter (· != k), m₂.filter (· != k), by simp [ha, hc]⟩

theorem next_of_prev (hi : i ∈ s) (h0 : 0 < s.idxOf i) : nextOf s (prevOf s i) = i :=
  (adj_prevOf hi h0).nextOf_eq hs

theorem prev_of_next (h1 : s.idxOf i + 1 < s.length) : prevOf s (nextOf s i) = i :=
  (adj_nextOf h1).prevOf_eq hs

theorem prevOf_ne (hk : k ∈ s) (h0 : 0 < s.idxOf k) : prevOf s k ≠ k := (adj_prevOf hk h0).ne hs

theorem nextOf_ne (h1 : s.idxOf k + 1 < s.length) : nextOf s k ≠ k := ((adj_nextOf h1).ne hs).symm

theorem prevOf_ne_nextOf (hint : Interior s i) : prevOf s i ≠ nextOf s i := fun h => by
  have h1 := ((adj_prevOf hint.mem hint.1).idxOf hs).1
  have h2 := ((adj_nextOf hint.2).idxOf hs).1
  rw [← h, h1] at h2
  exact absurd h2 (Nat.ne_of_lt (Nat.lt_add_of_pos_right (Nat.succ_pos 1)))

end

set_option linter.unusedVariables false in -- `hk` is not needed
theorem neighbours_erase (s : List Nat) (hs : s.Nodup) (k i : Nat) (hk : k ∈ s) (hi : i ∈ s) (hik : i ≠ k)
    (hint : Interior s i) (hp : prevOf s i ≠ k) (hn : nextOf s i ≠ k) :
    prevOf (s.filter (· != k)) i = prevOf s i ∧ nextOf (s.filter (· != k)) i = nextOf s i ∧
      Interior (s.filter (· != k)) i :=
  have hp' := (adj_prevOf hi hint.1).filter hp hik
  have hn' := (adj_nextOf hint.2).filter hik hn
  ⟨hp'.prevOf_eq (hs.filter _), hn'.nextOf_eq (hs.filter _), hp'.interior (hs.filter _) hn'⟩

/-! ### the padded column and the kernel's shift and scan -/

/-- a live sorted column followed by copies of its last entry: the shape of a column of the index
table `I` after some removals (`I[n:-1, m] = I[n+1:, m]` never touches the last row) -/
def padLast (s : List Nat) (n : Nat) : List Nat := s ++ List.replicate (n - s.length) (s.getLastD 0)

theorem padLast_length {s : List Nat} {n : Nat} (h : s.length ≤ n) : (padLast s n).length = n := by
  rw [padLast, List.length_append, List.length_replicate, Nat.add_sub_cancel' h]

theorem padLast_full {s : List Nat} {n : Nat} (h : s.length = n) : padLast s n = s := by
  rw [padLast, h, Nat.sub_self, List.replicate_zero, List.append_nil]

theorem padLast_getD_lt (s : List Nat) (n : Nat) {q : Nat} (hq : q < s.length) : (padLast s n).getD q 0 = s.getD q 0 :=
  List.getD_append _ _ _ _ hq

theorem padLast_getD (s : List Nat) {n q : Nat} (hq : q < n) :
    (padLast s n).getD q 0 = s.getD (min q (s.length - 1)) 0 := by
  rcases Nat.lt_or_ge q s.length with h | h
  · rw [padLast_getD_lt s n h, Nat.min_eq_left (Nat.le_sub_one_of_lt h)]
  · rw [padLast, List.getD_append_right _ _ _ _ h, List.getD_replicate _ (Nat.sub_lt_sub_right h hq),
      Nat.min_eq_right (Nat.le_trans (Nat.sub_le _ _) h), List.getLastD_eq_getLast?, List.getLast?_eq_getElem?,
      List.getD_eq_getElem?_getD]

theorem padLast_getD_mem {s : List Nat} {n q : Nat} (hs : s ≠ []) (hq : q < n) :
    (padLast s n).getD q 0 ∈ s := by
  have := List.length_pos_iff.mpr hs
  rw [padLast_getD s hq]; exact getD_mem (Nat.lt_of_le_of_lt (Nat.min_le_right _ _) (Nat.sub_lt this Nat.one_pos))

/-- a point that is not the last of a duplicate-free column occurs once in the padded column -/
theorem padLast_getD_eq_iff {s : List Nat} (hs : s.Nodup) {i n q : Nat} (h1 : s.idxOf i + 1 < s.length)
    (hq : q < n) : (padLast s n).getD q 0 = i ↔ q = s.idxOf i := by
  have hi : i ∈ s := List.idxOf_lt_length_iff.mp (Nat.lt_of_succ_lt h1)
  rcases Nat.lt_or_ge q s.length with h | h
  · rw [padLast_getD_lt s n h]; exact getD_eq_iff_idxOf hs hi h
  · -- in the padding: a copy of the last entry, and `i` is not the last
    rw [padLast_getD s hq, Nat.min_eq_right (Nat.le_trans (Nat.sub_le _ _) h),
      getD_eq_iff_idxOf hs hi (Nat.sub_lt (Nat.zero_lt_of_lt h1) Nat.one_pos)]
    exact ⟨fun e => absurd e (Nat.ne_of_gt (Nat.lt_sub_of_add_lt h1)),
      fun e => absurd (e ▸ h) (Nat.not_le.mpr (Nat.lt_of_succ_lt h1))⟩

theorem padLast_getLastD (s : List Nat) (n : Nat) : (padLast s n).getLastD 0 = s.getLastD 0 := by
  rw [padLast, List.getLastD_eq_getLast?, List.getLast?_append, List.getLast?_replicate, List.getLastD_eq_getLast?]
  split
  · rfl
  · rfl

theorem getLastD_eraseIdx (s : List Nat) {p : Nat} (hp : p + 1 < s.length) : (s.eraseIdx p).getLastD 0 = s.getLastD 0 := by
  obtain ⟨t, a, rfl⟩ := (List.eq_nil_or_concat s).resolve_left (List.ne_nil_of_length_pos (Nat.zero_lt_of_lt hp))
  rw [List.concat_eq_append] at hp ⊢
  rw [List.length_append, List.length_singleton, Nat.add_lt_add_iff_right] at hp
  rw [List.eraseIdx_append_of_lt_length hp, List.getLastD_concat, List.getLastD_concat]

/-- `I[n:-1, m] = I[n+1:, m]`: row `n` goes, the last row is there twice -/
theorem shiftAt_eq {col : List Nat} (h : col ≠ []) (p : Nat) : shiftAt col p = col.eraseIdx p ++ [col.getLastD 0] := by
  rw [shiftAt, ← List.append_assoc, ← List.eraseIdx_eq_take_drop_succ, List.drop_length_sub_one h,
    List.getLastD_eq_getLast?, List.getLast?_eq_some_getLast h, Option.getD_some]

theorem shiftAt_padLast (s : List Nat) (n p : Nat) (hp : p + 1 < s.length) (hn : s.length ≤ n) :
    shiftAt (padLast s n) p = padLast (s.eraseIdx p) n := by
  have hps : p < s.length := Nat.lt_of_succ_lt hp
  have hne : padLast s n ≠ [] := List.append_ne_nil_of_left_ne_nil (List.ne_nil_of_length_pos (Nat.zero_lt_of_lt hps)) _
  -- position `p` lies in the live part; the repeated last entry joins the padding
  rw [shiftAt_eq hne, padLast_getLastD, padLast, List.eraseIdx_append_of_lt_length hps, padLast, getLastD_eraseIdx s hp,
    List.length_eraseIdx_of_lt hps, show n - (s.length - 1) = n - s.length + 1 by omega, List.replicate_succ',
    List.append_assoc]

theorem shiftAt_length (col : List Nat) (p : Nat) (hp : p < col.length) : (shiftAt col p).length = col.length := by
  rw [shiftAt_eq (List.ne_nil_of_length_pos (Nat.zero_lt_of_lt hp)), List.length_append, List.length_eraseIdx_of_lt hp]
  exact Nat.sub_add_cancel (Nat.zero_lt_of_lt hp)

theorem scan_none (k : Nat) : ∀ (fuel start : Nat) (col : List Nat) (acc : List Nat × Bool),
    (∀ q, start ≤ q → q < start + fuel → col.getD q 0 ≠ k) → pcdScanCol k fuel start col acc = (col, acc) := by
  intro fuel
  induction fuel with
  | zero => exact fun _ _ _ _ => rfl
  | succ fuel ih =>
    intro start col acc h
    rw [pcdScanCol, if_neg (h start (Nat.le_refl _) (Nat.lt_add_of_pos_right (Nat.succ_pos _)))]
    exact ih (start + 1) col acc fun q h1 h2 => h q (Nat.le_of_succ_le h1) (by rwa [Nat.add_assoc, Nat.add_comm 1] at h2)

/-- the scan of `c_get_calc_items` over one column that holds `k` at exactly one position `p`: the scan goes on
over the shifted column, which must not hold `k` after `p` -/
theorem scan_find (k p : Nat) (col : List Nat) (acc : List Nat × Bool)
    (hpk : col.getD p 0 = k) (hbefore : ∀ q, q < p → col.getD q 0 ≠ k)
    (hafter : ∀ q, p < q → q < col.length → (shiftAt col p).getD q 0 ≠ k) :
    ∀ (fuel start : Nat), start ≤ p → p < start + fuel → start + fuel = col.length →
      pcdScanCol k fuel start col acc = (shiftAt col p,
        (insertSorted (col.getD (p - 1) 0) (insertSorted (col.getD (p + 1) 0) acc.1),
          acc.2 && decide (0 < p ∧ p + 1 < col.length))) := by
  intro fuel
  induction fuel with
  | zero => exact fun start h1 h2 _ => absurd h2 (Nat.not_lt.mpr h1)
  | succ fuel ih =>
    intro start h1 h2 hf
    rw [← Nat.add_comm 1, ← Nat.add_assoc] at h2 hf
    rcases Nat.eq_or_lt_of_le h1 with rfl | hlt
    · rw [pcdScanCol, if_pos hpk]
      exact scan_none k fuel _ _ _ fun q h1 h2 => hafter q h1 (hf ▸ h2)
    · rw [pcdScanCol, if_neg (hbefore start hlt)]
      exact ih (start + 1) hlt h2 hf

variable {α : Type} [Field α] [LinearOrder α] [IsStrictOrderedRing α] [Inhabited α]

/-! ### ends of the sorted live columns of a front: the first arg-min, and the arg-max if it is attained once -/

theorem column_getD (x : List (List α)) (m i : Nat) : (column x m).getD i default = xAt x i m :=
  List.getD_map x [] fun r : List α => r.getD m default

theorem column_length (f : List (List α)) (m : Nat) : (column f m).length = f.length :=
  List.length_map _

theorem column_ne_nil {f : List (List α)} (hne : f ≠ []) (m : Nat) : column f m ≠ [] :=
  fun h => hne (List.map_eq_nil_iff.mp h)

/-- the column's maximum is attained by exactly one point -/
def MaxOnce (col : List α) : Prop :=
  ∀ a b, a < col.length → b < col.length →
    (∀ k, k < col.length → col.getD k default ≤ col.getD a default) →
    (∀ k, k < col.length → col.getD k default ≤ col.getD b default) → a = b

/-- key of objective `m`: the raw objective value -/
def vf (f : List (List α)) (m : Nat) : Nat → α := fun i => (column f m).getD i default

theorem vf_eq_xAt (f : List (List α)) (m i : Nat) : vf f m i = xAt f i m := column_getD f m i

/-- the sorted live points of a column begin with its first arg-min, if that is alive -/
theorem sortedLive_head_argmin (col : List α) (hne : col ≠ []) (live : List Nat) (h : live.Pairwise (· < ·))
    (hlt : ∀ i ∈ live, i < col.length) (ha : argminFirst col ∈ live) :
    (sortedLive (fun i => col.getD i default) live).head? = some (argminFirst col) := by
  obtain ⟨_, h2, h3⟩ := argminFirst_firstMin col hne
  exact sortedLive_head _ _ h _ ha (fun b hb => h2 b (hlt b hb)) fun b _ hba => h3 b hba

/-- … and end with its first arg-max, if the maximum is attained once -/
theorem sortedLive_last_argmax (col : List α) (hne : col ≠ []) (live : List Nat) (h : live.Pairwise (· < ·))
    (hlt : ∀ i ∈ live, i < col.length) (ha : argmaxFirst col ∈ live) (honce : MaxOnce col) :
    (sortedLive (fun i => col.getD i default) live).getLast? = some (argmaxFirst col) := by
  obtain ⟨h1, h2, _⟩ := argmaxFirst_firstMax col hne
  refine sortedLive_last _ _ h _ ha fun b hb hne' => lt_of_not_ge fun hle => hne' ?_
  -- a second holder of the maximum would contradict `MaxOnce`
  exact honce b _ (hlt b hb) h1 (fun k hk => le_trans (h2 k hk) hle) h2

theorem S_head (f : List (List α)) (m : Nat) (live : List Nat) (h : live.Pairwise (· < ·))
    (hlt : ∀ i ∈ live, i < f.length) (hne : f ≠ []) (ha : argminFirst (column f m) ∈ live) :
    (sortedLive (vf f m) live).head? = some (argminFirst (column f m)) :=
  sortedLive_head_argmin (column f m) (column_ne_nil hne m) live h (fun i hi => (column_length f m).symm ▸ hlt i hi) ha

theorem S_last (f : List (List α)) (m : Nat) (live : List Nat) (h : live.Pairwise (· < ·))
    (hlt : ∀ i ∈ live, i < f.length) (hne : f ≠ []) (ha : argmaxFirst (column f m) ∈ live)
    (honce : MaxOnce (column f m)) :
    (sortedLive (vf f m) live).getLast? = some (argmaxFirst (column f m)) :=
  sortedLive_last_argmax (column f m) (column_ne_nil hne m) live h (fun i hi => (column_length f m).symm ▸ hlt i hi) ha
    honce

/-! ### the normalisation is strictly monotone in every objective -/

theorem normalize_length (f : List (List α)) (M : Nat) : (normalizeCols f M).length = f.length :=
  List.length_map _

theorem normalize_xAt (f : List (List α)) (M m : Nat) (hne : f ≠ []) (hm : m < M) :
    ∃ lo d : α, 0 < d ∧ ∀ j, j < f.length → xAt (normalizeCols f M) j m = (xAt f j m - lo) / d := by
  refine ⟨?_, ?_, ?_, fun j hj => ?_⟩
  rotate_left 3
  · -- `lo` and `d` are read off the definition
    unfold xAt normalizeCols
    rw [getD_map_of_lt _ _ _ hj, getD_map_range _ _ hm, getD_map_range _ _ hm, getD_map_range _ _ hm,
      List.getD_eq_getElem _ _ hj]
  · -- the zero-range guard; the column's minimum is below its maximum
    split
    · exact sub_pos.mpr ‹_›
    · rw [if_neg (not_lt.mpr ((argminFirst_firstMin (column f m) (column_ne_nil hne m)).2.1 _
        (argmaxFirst_firstMax (column f m) (column_ne_nil hne m)).1))]
      exact one_pos

theorem normalize_lt_iff (f : List (List α)) (M m : Nat) (hm : m < M) (a b : Nat) (ha : a < f.length)
    (hb : b < f.length) :
    xAt (normalizeCols f M) a m < xAt (normalizeCols f M) b m ↔ xAt f a m < xAt f b m := by
  obtain ⟨lo, d, hd, h⟩ := normalize_xAt f M m (List.ne_nil_of_length_pos (Nat.zero_lt_of_lt ha)) hm
  rw [h a ha, h b hb, div_lt_div_iff_of_pos_right hd, sub_lt_sub_iff_right]

/-! ### what the functional kernel computes on padded columns

`c_calc_pcd_iter`: one point and one objective, one point, all items; `c_get_calc_items`: one column (erases `k`, reports
its two neighbours, keeps the flag), all columns. The table is `(List.range M).map fun m => padLast (S m) n` for a family
`S` of columns. -/

/-- `s` is a live column of a front of `n` points in which `i` is interior -/
abbrev LiveCol (s : List Nat) (n i : Nat) : Prop :=
  s.Nodup ∧ s.length ≤ n ∧ (∀ j ∈ s, j < n) ∧ i ∈ s ∧ Interior s i

theorem cell_eval (x : List (List α)) (nObjS : α) (s : List Nat) (n m i : Nat) (cur : Ext α × Bool)
    (hs : s.Nodup) (hlen : s.length ≤ n) (hlt : ∀ j ∈ s, j < n) (hx : x.length = n) (hi : i ∈ s)
    (hint : Interior s i) :
    pcdCell x nObjS (padLast s n) m i cur =
      (Ext.fin ((xAt x (nextOf s i) m - xAt x (prevOf s i) m) / nObjS), cur.2) := by
  obtain ⟨h0, h1⟩ := hint
  have hL := padLast_length hlen
  have hpn : s.idxOf i < n := Nat.lt_of_lt_of_le (List.idxOf_lt_length_of_mem hi) hlen
  -- the scan `for n in range(N)` finds `i` at its position in `s` and nowhere else
  refine (foldl_range_unique _ _ cur (s.idxOf i) ((padLast_getD_eq_iff hs h1 hpn).mpr rfl) _
    (hL.symm ▸ hpn) fun q hq hne => mt (padLast_getD_eq_iff hs h1 (hL ▸ hq)).mp hne).trans ?_
  simp only [padLast_getD_lt s n h1, padLast_getD_lt s n (idxOf_pred_lt hi), hL, hx]
  rw [decide_eq_true ⟨h0, Nat.lt_of_lt_of_le h1 hlen, hlt _ (prevOf_mem hi), hlt _ (nextOf_mem h1)⟩, Bool.and_true]
  rfl

theorem row_eval (x : List (List α)) (nObjS : α) (S : Nat → List Nat) (n M i : Nat) (row : List (Ext α)) (ok : Bool)
    (hrow : row.length = M) (hx : x.length = n)
    (hS : ∀ m, m < M → (S m).Nodup ∧ (S m).length ≤ n ∧ (∀ j ∈ S m, j < n) ∧ i ∈ S m ∧ Interior (S m) i) :
    pcdRow x nObjS ((List.range M).map fun m => padLast (S m) n) i (row, ok) =
      ((List.range M).map fun m => Ext.fin ((xAt x (nextOf (S m) i) m - xAt x (prevOf (S m) i) m) / nObjS), ok) := by
  unfold pcdRow
  rw [List.length_map, List.length_range]
  -- every step writes the evaluated cell and keeps the flag
  refine (List.foldl_ext _ (fun acc m =>
    (acc.1.set m (Ext.fin ((xAt x (nextOf (S m) i) m - xAt x (prevOf (S m) i) m) / nObjS)), acc.2 && true)) _
    fun acc m hm => ?_).trans ?_
  · have hm' : m < M := List.mem_range.mp hm
    obtain ⟨a1, a2, a3, a4, a5⟩ := hS m hm'
    simp only [getD_map_range (fun m => padLast (S m) n) [] hm', cell_eval x nObjS (S m) n m i _ a1 a2 a3 hx a4 a5,
      Bool.and_true]
  · rw [foldl_set_flag _ fun _ => true, foldl_set_range _ hrow]
    simp

/-- the row of gaps of point `i` in the columns `S` -/
def rowOf (x : List (List α)) (nObjS : α) (S : Nat → List Nat) (M i : Nat) : List (Ext α) :=
  (List.range M).map fun m => Ext.fin ((xAt x (nextOf (S m) i) m - xAt x (prevOf (S m) i) m) / nObjS)

theorem rowOf_length (x : List (List α)) (nObjS : α) (S : Nat → List Nat) (M i : Nat) :
    (rowOf x nObjS S M i).length = M := by
  unfold rowOf
  rw [List.length_map, List.length_range]

theorem iter_eval (x : List (List α)) (nObjS : α) (S : Nat → List Nat) (n M : Nat) (ok : Bool) (hx : x.length = n) :
    ∀ (items : List Nat) (dmat : List (List (Ext α))),
    (∀ i, i < dmat.length → (dmat.getD i []).length = M) →
    (∀ i ∈ items, i < dmat.length ∧ ∀ m, m < M →
      (S m).Nodup ∧ (S m).length ≤ n ∧ (∀ j ∈ S m, j < n) ∧ i ∈ S m ∧ Interior (S m) i) →
    pcdIter x nObjS ((List.range M).map fun m => padLast (S m) n) items (dmat, ok) =
      (items.foldl (fun dm i => dm.set i (rowOf x nObjS S M i)) dmat, ok) := by
  intro items
  induction items with
  | nil => exact fun _ _ _ => rfl
  | cons a t ih =>
    intro dmat hrows hitems
    obtain ⟨ha, hS⟩ := hitems a List.mem_cons_self
    unfold pcdIter
    rw [List.foldl_cons, row_eval x nObjS S n M a (dmat.getD a []) ok (hrows a ha) hx hS]
    refine ih (dmat.set a (rowOf x nObjS S M a)) (fun i hi => ?_) fun i hi => ?_
    · rw [getD_set]
      split
      · exact rowOf_length ..
      · exact hrows i (by rwa [List.length_set] at hi)
    · rw [List.length_set]; exact hitems i (List.mem_cons_of_mem _ hi)

theorem scan_col (s : List Nat) (n k : Nat) (acc : List Nat × Bool) (hs : s.Nodup) (hlen : s.length ≤ n)
    (hk : k ∈ s) (hint : Interior s k) :
    pcdScanCol k (padLast s n).length 0 (padLast s n) acc =
      (padLast (s.filter (· != k)) n,
        (insertSorted (prevOf s k) (insertSorted (nextOf s k) acc.1), acc.2)) := by
  obtain ⟨h0, h1⟩ := hint
  have hpn : s.idxOf k < n := Nat.lt_of_lt_of_le (List.idxOf_lt_length_of_mem hk) hlen
  have hL := padLast_length hlen
  have hshift : shiftAt (padLast s n) (s.idxOf k) = padLast (s.filter (· != k)) n := by
    rw [shiftAt_padLast s n _ h1 hlen, filter_ne_eq_eraseIdx hs k]
  -- the shifted column, whose entries are those of `s` other than `k`, no longer holds `k`
  have hafter : ∀ q, q < n → (padLast (s.filter (· != k)) n).getD q 0 ≠ k := fun q hq heq =>
    (mem_filter_ne.mp (heq ▸ padLast_getD_mem
      (List.ne_nil_of_mem (mem_filter_ne.mpr ⟨prevOf_mem hk, prevOf_ne hs hk h0⟩)) hq)).2 rfl
  -- before the shift `k` sits at its position in `s` and nowhere else
  rw [scan_find k (s.idxOf k) (padLast s n) acc ((padLast_getD_eq_iff hs h1 hpn).mpr rfl)
    (fun q hq => mt (padLast_getD_eq_iff hs h1 (Nat.lt_trans hq hpn)).mp (Nat.ne_of_lt hq))
    (fun q _ hq => hshift ▸ hafter q (hL ▸ hq))
    _ 0 (Nat.zero_le _) (by rwa [Nat.zero_add, hL]) (Nat.zero_add _),
    hshift, padLast_getD_lt s n h1, padLast_getD_lt s n (idxOf_pred_lt hk), hL,
    decide_eq_true ⟨h0, Nat.lt_of_lt_of_le h1 hlen⟩, Bool.and_true]
  rfl

theorem getCalcItems_eval (S : Nat → List Nat) (n k : Nat) : ∀ (ms : List Nat) (cs : List (List Nat)) (its : List Nat) (ok : Bool),
    (∀ m ∈ ms, LiveCol (S m) n k) →
    ∃ its', (ms.map fun m => padLast (S m) n).foldl (fun acc col =>
        let r := pcdScanCol k col.length 0 col acc.2
        (acc.1 ++ [r.1], r.2)) (cs, (its, ok)) =
      (cs ++ ms.map (fun m => padLast ((S m).filter (· != k)) n), (its', ok)) ∧
      ∀ j, j ∈ its' ↔ j ∈ its ∨ ∃ m ∈ ms, j = prevOf (S m) k ∨ j = nextOf (S m) k := by
  intro ms
  induction ms with
  | nil => exact fun cs its ok _ => ⟨its, by simp, by simp⟩
  | cons a t ih =>
    intro cs its ok h
    obtain ⟨a1, a2, _, a3, a4⟩ := h a List.mem_cons_self
    obtain ⟨its', e, hmem⟩ := ih (cs ++ [padLast ((S a).filter (· != k)) n])
      (insertSorted (prevOf (S a) k) (insertSorted (nextOf (S a) k) its)) ok
      fun m hm => h m (List.mem_cons_of_mem _ hm)
    refine ⟨its', ?_, fun j => ?_⟩
    · rw [List.map_cons, List.foldl_cons, scan_col (S a) n k (its, ok) a1 a2 a3 a4, e, List.map_cons,
        List.append_assoc, List.singleton_append]
    · rw [hmem j, mem_insertSorted, mem_insertSorted]
      simp only [List.mem_cons, exists_eq_or_imp]
      rw [← or_assoc, or_comm (b := j ∈ its), or_assoc]

/-! ### the first pass by sorted position

`sortedLive_head_argmin`, `sortedLive_last_argmax` at positions `0` and `N − 1` of `argsortStable` of a full column (`huniq`
is `MaxOnce col` written out), and the first pass of the kernel (`n_remove ≤ 1`). Nothing else uses them: `pcdKernelF_refines` assumes `MaxOnce` of
every column (`AllMaxOnce`) and goes through `S_head`, `S_last`. The driver `PymoodeModel/Drv/Crowd.lean` quotes
`pcd_first_pass_safe_partial`. -/

theorem pair_sublist_range (a b : Nat) : ∀ (n : Nat), a < b → b < n → List.Sublist [a, b] (List.range n) :=
  fun _ hab hb => pair_sublist_of_pairwise_lt _ a b List.pairwise_lt_range (List.mem_range.mpr (hab.trans hb))
    (List.mem_range.mpr hb) hab

theorem argsort_head_eq_argminFirst (col : List α) (hne : col ≠ []) :
    (argsortStable col).getD 0 0 = argminFirst col := by
  have := sortedLive_head_argmin col hne (List.range col.length) List.pairwise_lt_range
    (fun _ hi => List.mem_range.mp hi) (List.mem_range.mpr (argminFirst_firstMin col hne).1)
  rw [argsortStable_eq, List.getD_eq_getElem?_getD, ← List.head?_eq_getElem?, this, Option.getD_some]

theorem argsort_last_eq_argmaxFirst (col : List α) (hne : col ≠ [])
    (huniq : ∀ a b, a < col.length → b < col.length →
      (∀ k, k < col.length → col.getD k default ≤ col.getD a default) →
      (∀ k, k < col.length → col.getD k default ≤ col.getD b default) → a = b) :
    (argsortStable col).getD (col.length - 1) 0 = argmaxFirst col := by
  have := sortedLive_last_argmax col hne (List.range col.length) List.pairwise_lt_range
    (fun _ hi => List.mem_range.mp hi) (List.mem_range.mpr (argmaxFirst_firstMax col hne).1) huniq
  rw [List.getLast?_eq_getElem?, sortedLive_length, List.length_range] at this
  rw [argsortStable_eq, List.getD_eq_getElem?_getD, this, Option.getD_some]

/-- **the first pass of the compiled pcd kernel stays inside the index table**: a point that is neither the first arg-min
nor the first arg-max of a column whose maximum is attained once sits at a position `0 < n < N−1` of the sorted column, so
`I[n−1, m]` and `I[n+1, m]` are in range -/
theorem pcd_first_pass_safe_partial (col : List α) (hne : col ≠ []) (hmax : MaxOnce col)
    (i : Nat) (hi : i < col.length) (hnmin : i ≠ argminFirst col) (hnmax : i ≠ argmaxFirst col) :
    0 < (argsortStable col).idxOf i ∧ (argsortStable col).idxOf i + 1 < col.length := by
  obtain ⟨hp, hget⟩ := argsort_idxOf col hi
  constructor
  · refine Nat.pos_of_ne_zero fun h0 => hnmin ?_
    rw [← hget, h0]
    exact argsort_head_eq_argminFirst col hne
  · by_contra h1
    apply hnmax
    rw [← hget, show (argsortStable col).idxOf i = col.length - 1 by omega]
    exact argsort_last_eq_argmaxFirst col hne hmax

end C13
end Pymoode
