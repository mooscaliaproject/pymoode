/-
C13 / C14: the compiled pcd kernel (`pcdKernelF`, `PymoodeModel/Metrics/KernelF.lean`) returns **exactly the published
definition** (`pcdFallback`, line by line the pure-Python engine) for any number of removals, and every index it
computes is in range (`pcdKernelF_refines`) — under `AllMaxOnce` (negation = known finding F2) and the removal budget
`Budget` (negation = F3). On a duplicate-free non-dominated front with two objectives both hold (`pcd_two_objectives`);
such a front is exhibited in `Witnesses.lean`.

The simulation (`KInv`): per objective the kernel's column is the stable sort of the live points, padded, and the
definition's re-sort of the normalised live rows is the same list. The ends of a column are extremes, so a live
non-extreme point is interior in every column: its entry of the definition's array is the sum of its two gaps, and the
kernel's reads `I[n±1, m]` are in range. In a pass both engines drop the same point; only its neighbours change their
gaps, and theirs are the rows the kernel recomputes, so the lazily updated arrays are the definition's recomputation
divided by `c`.

Exact ordered-field arithmetic; IEEE rounding (the kernel divides each gap by M and sums, the definition
sums and divides) is outside the theorem and is what "up to floating-point rounding" in C14 allows.
-/
import PymoodeProofs.Pcd.Columns
import PymoodeProofs.Metrics.Definitions

set_option linter.unusedSectionVars false

namespace Pymoode
namespace C13

variable {α : Type} [Field α] [LinearOrder α] [IsStrictOrderedRing α] [Inhabited α]

/-! ### the live set -/

/-- facts about the live set that every step of the removal loop preserves -/
structure LiveOK (f : List (List α)) (M : Nat) (live : List Nat) : Prop where
  pw : live.Pairwise (· < ·)
  lt : ∀ i ∈ live, i < f.length
  ex_in : ∀ e ∈ extremesFirst f M, e ∈ live

theorem live_nodup {f : List (List α)} {M : Nat} {live : List Nat} (h : LiveOK f M live) : live.Nodup :=
  h.pw.imp (fun h => Nat.ne_of_lt h)

theorem live_length_le {f : List (List α)} {M : Nat} {live : List Nat} (h : LiveOK f M live) :
    live.length ≤ f.length := by
  have := (List.subperm_of_subset (live_nodup h) fun i hi => List.mem_range.mpr (h.lt i hi)).length_le
  rwa [List.length_range] at this

theorem liveOK_filter {f : List (List α)} {M : Nat} {live : List Nat} (hl : LiveOK f M live) {r : Nat}
    (hr : r ∉ extremesFirst f M) : LiveOK f M (live.filter (· != r)) :=
  ⟨hl.pw.filter _, fun i hi => hl.lt i (List.mem_filter.mp hi).1,
    fun e he => mem_filter_ne.mpr ⟨hl.ex_in e he, fun h => hr (h ▸ he)⟩⟩

theorem liveOK_range (f : List (List α)) (M : Nat) (hne : f ≠ []) : LiveOK f M (List.range f.length) := by
  refine ⟨List.pairwise_lt_range, fun i hi => List.mem_range.mp hi, fun e he => List.mem_range.mpr ?_⟩
  rcases List.mem_append.mp he with he | he
  · obtain ⟨m, _, rfl⟩ := List.mem_map.mp he
    exact column_length f m ▸ (argminFirst_firstMin (column f m) (column_ne_nil hne m)).1
  · obtain ⟨m, _, rfl⟩ := List.mem_map.mp he
    exact column_length f m ▸ (argmaxFirst_firstMax (column f m) (column_ne_nil hne m)).1

/-- live points that are not extremes: the only ones the loop can remove -/
def nonEx (f : List (List α)) (M : Nat) (live : List Nat) : List Nat :=
  live.filter fun i => !(extremesFirst f M).contains i

theorem mem_nonEx {f : List (List α)} {M : Nat} {live : List Nat} {i : Nat} :
    i ∈ nonEx f M live ↔ i ∈ live ∧ i ∉ extremesFirst f M :=
  mem_filter_not_contains

theorem nonEx_filter_length {f : List (List α)} {M : Nat} {live : List Nat} (hnd : live.Nodup) {r : Nat}
    (hr : r ∈ live) (hrne : r ∉ extremesFirst f M) :
    (nonEx f M (live.filter (· != r))).length = (nonEx f M live).length - 1 := by
  have hcomm : nonEx f M (live.filter (· != r)) = (nonEx f M live).filter (· != r) := by
    unfold nonEx
    rw [List.filter_filter, List.filter_filter]
    exact List.filter_congr fun a _ => Bool.and_comm _ _
  rw [hcomm, length_filter_ne (s := nonEx f M live) (hnd.filter _) (mem_nonEx.mpr ⟨hr, hrne⟩)]

/-! ### the sorted live columns -/

theorem argmin_mem_extremes (f : List (List α)) (M m : Nat) (hm : m < M) :
    argminFirst (column f m) ∈ extremesFirst f M :=
  List.mem_append_left _ (List.mem_map.mpr ⟨m, List.mem_range.mpr hm, rfl⟩)

theorem argmax_mem_extremes (f : List (List α)) (M m : Nat) (hm : m < M) :
    argmaxFirst (column f m) ∈ extremesFirst f M :=
  List.mem_append_right _ (List.mem_map.mpr ⟨m, List.mem_range.mpr hm, rfl⟩)

/-- sorted live column of objective `m` (global indices) -/
def Scol (f : List (List α)) (m : Nat) (live : List Nat) : List Nat := sortedLive (vf f m) live

/-- the hypothesis whose negation is known finding F2 -/
def AllMaxOnce (f : List (List α)) (M : Nat) : Prop := ∀ m, m < M → MaxOnce (column f m)

theorem Scol_filter {f : List (List α)} {M : Nat} {live : List Nat} (hl : LiveOK f M live) (m r : Nat) :
    Scol f m (live.filter (· != r)) = (Scol f m live).filter (· != r) :=
  (sortedLive_filter (vf f m) live hl.pw _).symm

theorem Scol_range (f : List (List α)) (m : Nat) : Scol f m (List.range f.length) = argsortStable (column f m) := by
  rw [argsortStable_eq (column f m), column_length f]; rfl

theorem col_facts {f : List (List α)} {M : Nat} {live : List Nat} (hl : LiveOK f M live) (hmax : AllMaxOnce f M)
    {i : Nat} (hi : i ∈ live) (hne : i ∉ extremesFirst f M) {m : Nat} (hm : m < M) :
    LiveCol (Scol f m live) f.length i := by
  have hfne : f ≠ [] := List.ne_nil_of_length_pos (Nat.zero_lt_of_lt (hl.lt i hi))
  have hmem := (sortedLive_mem (vf f m) live i).mpr hi
  refine ⟨sortedLive_nodup (vf f m) live hl.pw, (sortedLive_length _ _).trans_le (live_length_le hl),
    fun j hj => hl.lt j ((sortedLive_mem (vf f m) live j).mp hj), hmem, interior_of_ne_ends hmem ?_ ?_⟩
  -- interior: the ends of the column are extremes (the first arg-min; the arg-max, attained once), and `i` is none
  · unfold Scol
    rw [S_head f m live hl.pw hl.lt hfne (hl.ex_in _ (argmin_mem_extremes f M m hm))]
    exact fun h => hne (Option.some.inj h ▸ argmin_mem_extremes f M m hm)
  · unfold Scol
    rw [S_last f m live hl.pw hl.lt hfne (hl.ex_in _ (argmax_mem_extremes f M m hm)) (hmax m hm)]
    exact fun h => hne (Option.some.inj h ▸ argmax_mem_extremes f M m hm)

/-- the fallback sorts the *normalised* values of the live rows by position; mapped back to global
indices this is the kernel's sorted live column (which was sorted on the raw values) -/
theorem sort_bridge (f : List (List α)) (M m : Nat) (hm : m < M) (live : List Nat) (hl : LiveOK f M live) :
    (argsortStable (column (live.map fun i => (normalizeCols f M).getD i []) m)).map (fun p => live.getD p 0) =
      Scol f m live := by
  have hcol : column (live.map fun i => (normalizeCols f M).getD i []) m = live.map fun j => xAt (normalizeCols f M) j m :=
    List.map_map ..
  rw [hcol, argsortStable_eq (live.map fun j => xAt (normalizeCols f M) j m), sortedLive, List.map_mergeSort (s := leBy (vf f m)), List.length_map,
    ← eq_map_range_getD live 0]
  · rfl
  · -- the normalisation keeps the order of the raw values
    intro a ha b hb
    rw [List.length_map, List.mem_range] at ha hb
    simp only [leBy, getD_map_of_lt _ live (default : α) ha, getD_map_of_lt _ live (default : α) hb, List.getD_eq_getElem live 0 ha,
      List.getD_eq_getElem live 0 hb, vf_eq_xAt f]
    exact congrArg not (decide_eq_decide.mpr
      (normalize_lt_iff f M m hm _ _ (hl.lt _ (List.getElem_mem hb)) (hl.lt _ (List.getElem_mem ha))))

/-! ### the definition's array, read through the sorted live columns -/

/-- the definition's contribution of objective `m` to a live non-extreme point: the two gaps to its
neighbours in the sorted live column -/
def gapF (f : List (List α)) (M : Nat) (live : List Nat) (i m : Nat) : α :=
  let x := normalizeCols f M
  (xAt x i m - xAt x (prevOf (Scol f m live) i) m) + (xAt x (nextOf (Scol f m live) i) m - xAt x i m)

/-- the definition's (undivided) crowding sum of a live non-extreme point -/
def sumF (f : List (List α)) (M : Nat) (live : List Nat) (i : Nat) : Ext α :=
  (List.range M).foldl (fun acc m => Ext.add acc (Ext.fin (gapF f M live i m))) (Ext.fin 0)

/-- `pcdObj` of a column `col` given along a duplicate-free list of points: a point that is interior in the sorted
list `S` of the points gets the two gaps to its neighbours in `S` -/
theorem pcdObj_live (v : Nat → α) {live S : List Nat} {col : List α} (hcol : col = live.map v) (hnd : live.Nodup)
    (hS : (argsortStable col).map (fun p => live.getD p 0) = S) {i : Nat} (hi : i ∈ live)
    (hint : Interior S i) :
    (pcdObj col).getD (live.idxOf i) (Ext.fin 0) = Ext.fin ((v i - v (prevOf S i)) + (v (nextOf S i) - v i)) := by
  subst hcol
  have hmem := hint.mem
  have hoent : ∀ p ∈ argsortStable (live.map v), p < live.length := fun p hp => by
    have := (argsort_perm (live.map v)).subset hp
    rwa [List.mem_range, List.length_map] at this
  have hs : ((argsortStable (live.map v)).map fun p => (live.map v).getD p default) = S.map v := by
    rw [← hS, List.map_map]
    refine List.map_congr_left fun p hp => ?_
    rw [getD_map_of_lt _ live (default : α) (hoent p hp), Function.comp_apply, List.getD_eq_getElem live 0 (hoent p hp)]
  -- `S` is the argsort of positions read through `p ↦ live[p]`, which is injective on positions: the place of
  -- `live.idxOf i` among the sorted positions is the place of `i` in `S`
  have hidx : (argsortStable (live.map v)).idxOf (live.idxOf i) = S.idxOf i := by
    rw [← hS]
    conv_rhs => rw [← getD_idxOf (d := 0) hi]
    refine (idxOf_map_of_inj (fun p => live.getD p 0) (live.idxOf i) fun p hp e => ?_).symm
    rw [← idxOf_getD_of_nodup hnd (hoent p hp), e, getD_idxOf hi]
  have hsget : ∀ j, j < S.length → (S.map v).getD j default = v (S.getD j 0) := fun j hj => by
    rw [getD_map_of_lt _ _ (default : α) hj, List.getD_eq_getElem _ 0 hj]
  have hq := List.idxOf_lt_length_of_mem hmem
  rw [pcdObj, getD_map_range _ _ (by rw [List.length_map]; exact List.idxOf_lt_length_of_mem hi), hidx, hs, pcdSorted, List.length_map,
    getD_map_range _ _ hq, if_neg (Nat.ne_of_gt hint.1), if_neg (Nat.ne_of_lt hint.2), hsget _ hq,
    hsget _ (idxOf_pred_lt hmem), hsget _ hint.2, getD_idxOf hmem]
  rfl

theorem scratch_cell (f : List (List α)) (M m : Nat) (hm : m < M) (live : List Nat) (hl : LiveOK f M live)
    (hmax : AllMaxOnce f M) (i : Nat) (hi : i ∈ live) (hne : i ∉ extremesFirst f M) :
    (pcdObj (column (live.map fun j => (normalizeCols f M).getD j []) m)).getD (live.idxOf i) (Ext.fin 0) =
      Ext.fin (gapF f M live i m) := by
  obtain ⟨_, _, _, _, hint⟩ := col_facts hl hmax hi hne hm
  exact pcdObj_live (fun j => xAt (normalizeCols f M) j m) (List.map_map ..) (live_nodup hl)
    (sort_bridge f M m hm live hl) hi hint

/-- under `AllMaxOnce` the definition's array is `+inf` / the sum of the gaps / the old value -/
theorem pcdScratch_eq_sumF {f : List (List α)} {M : Nat} {live : List Nat} (hl : LiveOK f M live)
    (hmax : AllMaxOnce f M) (old : List (Ext α)) :
    pcdScratch (normalizeCols f M) live M (extremesFirst f M) f.length old =
      scratchArr (extremesFirst f M) live f.length (sumF f M live) old := by
  rw [pcdScratch_eq_scratchArr]
  refine scratchArr_congr fun i hil hie => ?_
  simp only [sumExt, sumF, getD_map_range _ _ (List.idxOf_lt_length_of_mem hil), List.foldl_map]
  exact List.foldl_ext _ _ _ fun acc m hm => congrArg (Ext.add acc)
    (scratch_cell f M m (List.mem_range.mp hm) live hl hmax i hil hie)

theorem scratch_get (f : List (List α)) (M : Nat) (live : List Nat) (hl : LiveOK f M live)
    (hmax : AllMaxOnce f M) (old : List (Ext α)) (i : Nat) (hi : i < f.length) :
    (pcdScratch (normalizeCols f M) live M (extremesFirst f M) f.length old).getD i Ext.top =
      if (extremesFirst f M).contains i then Ext.top
      else if i ∈ live then
        (List.range M).foldl (fun acc m => Ext.add acc (Ext.fin (gapF f M live i m))) (Ext.fin 0)
      else old.getD i Ext.top := by
  rw [pcdScratch_eq_sumF hl hmax, scratchArr_getD hi]
  simp only [List.contains_iff_mem]
  rfl

/-- `D` is the definition's array computed from scratch on the live set `live`; the entries of dead points are
whatever they were before. The fields `KInv.dF_scratch`, `C15.PInv.scratch` spell it out -/
def IsScratch (f : List (List α)) (M : Nat) (live : List Nat) (D : List (Ext α)) : Prop :=
  ∃ old, D = pcdScratch (normalizeCols f M) live M (extremesFirst f M) f.length old

theorem fold_fin_eq (a : Nat → α) : ∀ (l : List Nat) (v : α),
    l.foldl (fun acc m => Ext.add acc (Ext.fin (a m))) (Ext.fin v) = Ext.fin (l.foldl (fun s m => s + a m) v) :=
  fun _ _ => List.foldl_hom Ext.fin fun _ _ => rfl

section ScratchGet
variable {f : List (List α)} {M : Nat} {live : List Nat} {D : List (Ext α)} (hl : LiveOK f M live)
  (hmax : AllMaxOnce f M) {i : Nat}

theorem isScratch_length (hD : IsScratch f M live D) : D.length = f.length := by
  obtain ⟨old, rfl⟩ := hD
  rw [pcdScratch_eq_scratchArr]; exact scratchArr_length

include hl hmax

theorem scratch_get_ex (hD : IsScratch f M live D) (h : i ∈ extremesFirst f M) : D.getD i Ext.top = Ext.top := by
  obtain ⟨old, rfl⟩ := hD
  rw [pcdScratch_eq_sumF hl hmax, scratchArr_getD_ex (hl.lt i (hl.ex_in i h)) h]

theorem scratch_get_live (hD : IsScratch f M live D) (h : i ∉ extremesFirst f M) (hi : i ∈ live) :
    D.getD i Ext.top = sumF f M live i := by
  obtain ⟨old, rfl⟩ := hD
  rw [pcdScratch_eq_sumF hl hmax, scratchArr_getD (hl.lt i hi), if_neg h, if_pos hi]

/-- the point dropped next is a live point of minimal value, and it is not an extreme: an extreme point holds
`+inf`, a live non-extreme point (there is one: `j`) a finite sum -/
theorem drop_nonextreme (hD : IsScratch f M live D) {j : Nat} (hj : j ∈ live) (hjne : j ∉ extremesFirst f M) :
    ∃ r, dropLast D live = some r ∧ r ∈ live ∧ r ∉ extremesFirst f M := by
  obtain ⟨r, hr⟩ := dropLast_isSome D (List.ne_nil_of_mem hj)
  obtain ⟨hrl, hrmin⟩ := dropLast_min D hr
  refine ⟨r, hr, hrl, fun hre => ?_⟩
  have h1 := hrmin j hj
  rw [scratch_get_ex hl hmax hD hre, scratch_get_live hl hmax hD hjne hj, sumF, fold_fin_eq, extLe_top_left] at h1
  cases h1

end ScratchGet

/-! ### the kernel's state and the simulation invariant -/

/-- one pass of the kernel's `while` loop (the body of `pcdLoopF`) -/
def pcdStepF (x : List (List α)) (c : α) (ex : List Nat) (st : PcdState α) : PcdState α :=
  let k := (dropLast st.d st.h).getD 0
  let h' := st.h.filter (· != k)
  let r := pcdGetCalcItems k st.cols
  let items := r.2.1.filter fun i => !ex.contains i
  let it := pcdIter x c r.1 items (st.dmat, st.ok && r.2.2)
  let d' := pcdCalcD it.1 items st.d
  { cols := r.1, dmat := it.1, d := d', h := h', ok := it.2 }

theorem pcdLoopF_succ (x : List (List α)) (c : α) (ex : List Nat) (fuel : Nat) (st : PcdState α) :
    pcdLoopF x c ex (fuel + 1) st = pcdLoopF x c ex fuel (pcdStepF x c ex st) := rfl

/-- the second half of a pass, and of the initialisation: `c_calc_pcd_iter` rewrites the rows of `items`,
`c_calc_d` sums them -/
def pcdRefresh (x : List (List α)) (c : α) (cols : List (List Nat)) (items : List Nat) (dmat : List (List (Ext α)))
    (d : List (Ext α)) (ok : Bool) (h : List Nat) : PcdState α :=
  let it := pcdIter x c cols items (dmat, ok)
  { cols := cols, dmat := it.1, d := pcdCalcD it.1 items d, h := h, ok := it.2 }

/-- the index table `I` the kernel holds when the live set is `live` -/
def colsOf (f : List (List α)) (M : Nat) (live : List Nat) : List (List Nat) :=
  (List.range M).map fun m => padLast (Scol f m live) f.length

/-- the kernel's row of gaps of point `i` -/
def rowK (f : List (List α)) (M : Nat) (c : α) (live : List Nat) (i : Nat) : List (Ext α) :=
  rowOf (normalizeCols f M) c (fun m => Scol f m live) M i

theorem div_fold (c : α) (a : Nat → α) : ∀ (l : List Nat) (acc : Ext α),
    Ext.mapFin (· / c) (l.foldl (fun acc m => Ext.add acc (Ext.fin (a m))) acc) =
      l.foldl (fun acc m => Ext.add acc (Ext.fin (a m / c))) (Ext.mapFin (· / c) acc) :=
  fun _ _ => (List.foldl_hom _ fun x m => (Ext.mapFin_div_add c x (Ext.fin (a m))).symm).symm

/-- what the kernel sums for a point = the definition's sum divided by `c` -/
theorem rowK_sum (f : List (List α)) (M : Nat) (c : α) (live : List Nat) (i : Nat) :
    (rowK f M c live i).foldl Ext.add (Ext.fin 0) = Ext.mapFin (· / c) (sumF f M live i) := by
  unfold rowK rowOf sumF
  rw [List.foldl_map, div_fold c, show Ext.mapFin (· / c) (Ext.fin (0 : α)) = Ext.fin 0 from
    congrArg Ext.fin (zero_div c)]
  refine List.foldl_ext _ _ _ fun acc m hm => ?_
  congr 2
  -- the two gaps `(x i − x prev) + (x next − x i)` telescope
  exact congrArg (· / c) (sub_add_sub_cancel' _ _ _).symm

theorem dropLast_map (c : α) (hc : 0 < c) (d : List (Ext α)) (live : List Nat) :
    dropLast (d.map (Ext.mapFin (· / c))) live = dropLast d live := by
  unfold dropLast
  congr 1
  funext best i
  cases best with
  | none => rfl
  | some b => simp only [getD_map_mapFin, Ext.lt_mapFin_div c hc]

/-- simulation invariant between the kernel state and the definition's crowding array `dF` -/
structure KInv (f : List (List α)) (M : Nat) (c : α) (st : PcdState α) (live : List Nat) (dF : List (Ext α)) : Prop where
  h_eq : st.h = live
  cols_eq : st.cols = colsOf f M live
  dmat_len : st.dmat.length = f.length
  dmat_rows : ∀ i, i < st.dmat.length → (st.dmat.getD i []).length = M
  dmat_live : ∀ i ∈ live, i ∉ extremesFirst f M → st.dmat.getD i [] = rowK f M c live i
  d_eq : st.d = dF.map (Ext.mapFin (· / c))
  dF_scratch : ∃ old, dF = pcdScratch (normalizeCols f M) live M (extremesFirst f M) f.length old
  ok : st.ok = true

/-- the lazily updated arrays agree with a recomputation from scratch, provided the rows and sums that are not
rewritten already were those of `live` -/
theorem kinv_refresh {f : List (List α)} {M : Nat} {c : α} (hmax : AllMaxOnce f M) {live : List Nat}
    (hl : LiveOK f M live) {items : List Nat} {dmat : List (List (Ext α))} {d old : List (Ext α)}
    (hitems : ∀ i ∈ items, i ∈ live ∧ i ∉ extremesFirst f M)
    (hlen : dmat.length = f.length) (hrows : ∀ i, i < dmat.length → (dmat.getD i []).length = M)
    (hkeep : ∀ i ∈ live, i ∉ extremesFirst f M → i ∉ items → dmat.getD i [] = rowK f M c live i)
    (hd : d = old.map (Ext.mapFin (· / c))) (hold : old.length = f.length)
    (hex : ∀ i ∈ extremesFirst f M, i < f.length → d.getD i Ext.top = Ext.top)
    (hdkeep : ∀ i ∈ live, i ∉ extremesFirst f M → i ∉ items →
      d.getD i Ext.top = Ext.mapFin (· / c) (sumF f M live i)) :
    KInv f M c (pcdRefresh (normalizeCols f M) c (colsOf f M live) items dmat d true live) live
      (pcdScratch (normalizeCols f M) live M (extremesFirst f M) f.length old) := by
  -- every item is interior in every column, so `c_calc_pcd_iter` writes its row `rowK` and stays in range
  have hiter : pcdIter (normalizeCols f M) c (colsOf f M live) items (dmat, true) =
      (items.foldl (fun dm i => dm.set i (rowK f M c live i)) dmat, true) :=
    iter_eval (normalizeCols f M) c (fun m => Scol f m live) f.length M true (normalize_length f M) items dmat hrows
      fun i hi => ⟨hlen ▸ hl.lt i (hitems i hi).1, fun m hm => col_facts hl hmax (hitems i hi).1 (hitems i hi).2 hm⟩
  unfold pcdRefresh
  rw [hiter]
  have hdl := length_foldl_set (fun i => rowK f M c live i) items dmat
  have hdg := getD_foldl_set (fun i => rowK f M c live i) ([] : List (Ext α)) items dmat
  generalize items.foldl (fun dm i => dm.set i (rowK f M c live i)) dmat = dmat' at hdl hdg ⊢
  have hrows' : ∀ i ∈ live, i ∉ extremesFirst f M → dmat'.getD i [] = rowK f M c live i := fun i hi hie => by
    by_cases hit : i ∈ items
    · rw [hdg i, if_pos ⟨hit, hlen ▸ hl.lt i hi⟩]
    · rw [hdg i, if_neg fun h => hit h.1]; exact hkeep i hi hie hit
  refine ⟨rfl, rfl, hdl.trans hlen, fun i hi => ?_, hrows', ?_, ⟨old, rfl⟩, rfl⟩
  · rw [hdg i]
    split
    · exact rowOf_length ..
    · exact hrows i (hdl ▸ hi)
  · -- `c_calc_d`: an item's entry is the sum of its new row; both arrays are the same lazy update of `d`
    rw [pcdScratch_eq_sumF hl hmax, map_scratchArr _ rfl, ← hd]
    exact foldl_set_eq_scratchArr (by rw [hd, List.length_map, hold]) hitems
      (fun i hi => by rw [hrows' i (hitems i hi).1 (hitems i hi).2, rowK_sum f]) hex
      fun i hi hie hit _ => hdkeep i hi hie hit

/-! ### one pass of the loop -/

theorem getCalcItems_cols {f : List (List α)} {M : Nat} {live : List Nat} (hl : LiveOK f M live) (hmax : AllMaxOnce f M)
    {r : Nat} (hr : r ∈ live) (hrne : r ∉ extremesFirst f M) :
    ∃ its, pcdGetCalcItems r (colsOf f M live) = (colsOf f M (live.filter (· != r)), (its, true)) ∧
      (∀ j ∈ its, j ∈ live.filter (· != r)) ∧
      ∀ j m, m < M → j = prevOf (Scol f m live) r ∨ j = nextOf (Scol f m live) r → j ∈ its := by
  obtain ⟨its, hits, hmem⟩ := getCalcItems_eval (fun m => Scol f m live) f.length r (List.range M) [] [] true
    fun m hm => col_facts hl hmax hr hrne (List.mem_range.mp hm)
  refine ⟨its, ?_, fun j hj => ?_, fun j m hm h => (hmem j).mpr (Or.inr ⟨m, List.mem_range.mpr hm, h⟩)⟩
  · unfold pcdGetCalcItems colsOf
    rw [hits, List.nil_append]
    simp only [Scol_filter hl]
  · obtain ⟨m, hm, hj⟩ := ((hmem j).mp hj).resolve_left List.not_mem_nil
    obtain ⟨hnd, _, _, hrmem, h0, h1⟩ := col_facts hl hmax hr hrne (List.mem_range.mp hm)
    rcases hj with rfl | rfl
    · exact mem_filter_ne.mpr ⟨(sortedLive_mem _ _ _).mp (prevOf_mem hrmem), prevOf_ne hnd hrmem h0⟩
    · exact mem_filter_ne.mpr ⟨(sortedLive_mem _ _ _).mp (nextOf_mem h1), nextOf_ne hnd h1⟩

theorem neighbours_stable (f : List (List α)) (M : Nat) (live : List Nat) (hl : LiveOK f M live) (hmax : AllMaxOnce f M)
    (r : Nat) (hr : r ∈ live) (hrne : r ∉ extremesFirst f M) (i : Nat) (hi : i ∈ live) (hir : i ≠ r)
    (hine : i ∉ extremesFirst f M) (m : Nat) (hm : m < M)
    (h1 : i ≠ prevOf (Scol f m live) r) (h2 : i ≠ nextOf (Scol f m live) r) :
    prevOf (Scol f m (live.filter (· != r))) i = prevOf (Scol f m live) i ∧
      nextOf (Scol f m (live.filter (· != r))) i = nextOf (Scol f m live) i := by
  obtain ⟨hnd, _, _, himem, hi0, hi1⟩ := col_facts hl hmax hi hine hm
  obtain ⟨_, _, _, hrmem, _⟩ := col_facts hl hmax hr hrne hm
  rw [Scol_filter hl]
  -- `i` is not a neighbour of `r`, so `r` is not a neighbour of `i`
  obtain ⟨e1, e2, -⟩ := neighbours_erase _ hnd r i hrmem himem hir ⟨hi0, hi1⟩
    (fun h => h2 (h ▸ next_of_prev hnd himem hi0).symm) fun h => h1 (h ▸ prev_of_next hnd hi1).symm
  exact ⟨e1, e2⟩

theorem stable_of_not_adjacent {f : List (List α)} {M : Nat} (c : α) {live : List Nat} (hl : LiveOK f M live)
    (hmax : AllMaxOnce f M) {r : Nat} (hr : r ∈ live) (hrne : r ∉ extremesFirst f M) {i : Nat}
    (hi : i ∈ live.filter (· != r)) (hine : i ∉ extremesFirst f M)
    (hna : ∀ m, m < M → i ≠ prevOf (Scol f m live) r ∧ i ≠ nextOf (Scol f m live) r) :
    rowK f M c (live.filter (· != r)) i = rowK f M c live i ∧ sumF f M (live.filter (· != r)) i = sumF f M live i := by
  obtain ⟨hil, hir⟩ := mem_filter_ne.mp hi
  have hnb := fun m hm => neighbours_stable f M live hl hmax r hr hrne i hil hir hine m (List.mem_range.mp hm)
    (hna m (List.mem_range.mp hm)).1 (hna m (List.mem_range.mp hm)).2
  constructor
  · refine List.map_congr_left fun m hm => ?_
    rw [(hnb m hm).1, (hnb m hm).2]
  · refine List.foldl_ext _ _ _ fun acc m hm => ?_
    unfold gapF
    rw [(hnb m hm).1, (hnb m hm).2]

/-- one pass keeps the simulation; `st.ok` in `KInv` says the kernel's index arithmetic stayed in range -/
theorem step_inv (f : List (List α)) (M : Nat) (c : α) (hc : 0 < c) (hmax : AllMaxOnce f M)
    (st : PcdState α) (live : List Nat) (dF : List (Ext α)) (hl : LiveOK f M live)
    (hinv : KInv f M c st live dF) (j : Nat) (hj : j ∈ live) (hjne : j ∉ extremesFirst f M) :
    ∃ r, dropLast dF live = some r ∧ r ∈ live ∧ r ∉ extremesFirst f M ∧
      KInv f M c (pcdStepF (normalizeCols f M) c (extremesFirst f M) st) (live.filter (· != r))
        (pcdScratch (normalizeCols f M) (live.filter (· != r)) M (extremesFirst f M) f.length dF) := by
  obtain ⟨r, hr, hrl, hrne⟩ := drop_nonextreme hl hmax hinv.dF_scratch hj hjne
  refine ⟨r, hr, hrl, hrne, ?_⟩
  have hl' := liveOK_filter hl hrne
  -- the kernel drops the same point, takes it out of its columns and recomputes its neighbours
  have hk : (dropLast st.d live).getD 0 = r := by rw [hinv.d_eq, dropLast_map c hc, hr]; rfl
  obtain ⟨its, hgci, hsub, hadj⟩ := getCalcItems_cols hl hmax hrl hrne
  have hstep : pcdStepF (normalizeCols f M) c (extremesFirst f M) st =
      pcdRefresh (normalizeCols f M) c (colsOf f M (live.filter (· != r)))
        (nonEx f M its) st.dmat st.d true (live.filter (· != r)) := by
    simp only [pcdStepF, pcdRefresh, nonEx, hinv.h_eq, hinv.cols_eq, hinv.ok, hk, hgci, Bool.and_true]
  rw [hstep]
  -- every other live non-extreme point is adjacent to `r` in no column
  have hother : ∀ i ∈ live.filter (· != r), i ∉ extremesFirst f M → i ∉ nonEx f M its →
      rowK f M c (live.filter (· != r)) i = rowK f M c live i ∧ sumF f M (live.filter (· != r)) i = sumF f M live i :=
    fun i hi hie hit => stable_of_not_adjacent c hl hmax hrl hrne hi hie fun m hm =>
      ⟨fun h => hit (mem_nonEx.mpr ⟨hadj i m hm (Or.inl h), hie⟩),
        fun h => hit (mem_nonEx.mpr ⟨hadj i m hm (Or.inr h), hie⟩)⟩
  refine kinv_refresh hmax hl' (fun i hi => ⟨hsub i (mem_nonEx.mp hi).1, (mem_nonEx.mp hi).2⟩) hinv.dmat_len
    hinv.dmat_rows (fun i hi hie hit => ?_) hinv.d_eq (isScratch_length hinv.dF_scratch)
    (fun i hie _ => ?_) fun i hi hie hit => ?_
  · rw [hinv.dmat_live i (mem_filter_ne.mp hi).1 hie, (hother i hi hie hit).1]
  · rw [hinv.d_eq, getD_map_mapFin, scratch_get_ex hl hmax hinv.dF_scratch hie]; rfl
  · rw [hinv.d_eq, getD_map_mapFin, scratch_get_live hl hmax hinv.dF_scratch hie (mem_filter_ne.mp hi).1,
      (hother i hi hie hit).2]

/-! ### the whole loop, the initial state, the property theorems -/

/-- the recomputation the definition performs after each removal -/
def recomputeF (f : List (List α)) (M : Nat) : List Nat → List (Ext α) → List (Ext α) :=
  fun lv old => pcdScratch (normalizeCols f M) lv M (extremesFirst f M) f.length old

/-- `calc_pcd`: the loop, started from a first evaluation on all points, and the division by `c` at the end -/
theorem pcdFallback_eq (f : List (List α)) (M : Nat) (c : α) (nRemove : Int) :
    pcdFallback f M c nRemove =
      (pruneLoop (recomputeF f M) (clampRemove nRemove f.length M - 1).toNat (List.range f.length)
        (pcdScratch (normalizeCols f M) (List.range f.length) M (extremesFirst f M) f.length
          (f.map fun _ => Ext.top))).map (Ext.mapFin (· / c)) := rfl

theorem loop_sim (f : List (List α)) (M : Nat) (c : α) (hc : 0 < c) (hmax : AllMaxOnce f M) :
    ∀ (fuel : Nat) (st : PcdState α) (live : List Nat) (dF : List (Ext α)),
      LiveOK f M live → KInv f M c st live dF → fuel ≤ (nonEx f M live).length →
      (pcdLoopF (normalizeCols f M) c (extremesFirst f M) fuel st).ok = true ∧
      (pcdLoopF (normalizeCols f M) c (extremesFirst f M) fuel st).d =
        (pruneLoop (recomputeF f M) fuel live dF).map (Ext.mapFin (· / c)) := by
  intro fuel
  induction fuel with
  | zero => exact fun st live dF _ hinv _ => ⟨hinv.ok, hinv.d_eq⟩
  | succ fuel ih =>
    intro st live dF hl hinv hb
    -- the budget leaves a live non-extreme point
    obtain ⟨j, hj⟩ := List.exists_mem_of_length_pos (Nat.lt_of_lt_of_le (Nat.succ_pos fuel) hb)
    obtain ⟨r, hr, hrl, hrne, hinv'⟩ := step_inv f M c hc hmax st live dF hl hinv j (mem_nonEx.mp hj).1 (mem_nonEx.mp hj).2
    rw [pcdLoopF_succ, pruneLoop_succ _ fuel hr]
    refine ih _ _ _ (liveOK_filter hl hrne) hinv' ?_
    rw [nonEx_filter_length (live_nodup hl) hrl hrne]
    exact Nat.le_sub_one_of_lt hb

theorem init_inv (f : List (List α)) (M : Nat) (c : α) (hne : f ≠ []) (hmax : AllMaxOnce f M) :
    KInv f M c (pcdInitF f M c) (List.range f.length)
      (pcdScratch (normalizeCols f M) (List.range f.length) M (extremesFirst f M) f.length (f.map fun _ => Ext.top)) := by
  have hl := liveOK_range f M hne
  -- nothing has been removed yet: the columns are the full sorted columns, without padding
  have hcols : ((List.range M).map fun cc => argsortStable (column f cc)) = colsOf f M (List.range f.length) :=
    List.map_congr_left fun m _ => by
      rw [← Scol_range, padLast_full (by unfold Scol; rw [sortedLive_length, List.length_range])]
  have hinit : pcdInitF f M c = pcdRefresh (normalizeCols f M) c (colsOf f M (List.range f.length))
      (nonEx f M (List.range f.length)) (List.replicate f.length (List.replicate M Ext.top))
      (List.replicate f.length Ext.top) true (List.range f.length) := by
    unfold pcdInitF
    rw [hcols]; rfl
  rw [hinit]
  -- every non-extreme row is written; an extreme point keeps `+inf`
  refine kinv_refresh hmax hl (fun i hi => mem_nonEx.mp hi) List.length_replicate (fun i hi => ?_)
    (fun i hi hie hit => absurd (mem_nonEx.mpr ⟨hi, hie⟩) hit) ?_ (List.length_map _)
    (fun i _ hi => List.getD_replicate _ hi) fun i hi hie hit => absurd (mem_nonEx.mpr ⟨hi, hie⟩) hit
  · rw [List.getD_replicate _ (by rwa [List.length_replicate] at hi), List.length_replicate]
  · rw [List.map_map]; exact List.map_const'.symm

/-- the hypothesis whose negation is known finding F3: no more passes of the loop than non-extreme points; the passes
are `n_remove − 1` for the clamped `n_remove` (`clampRemove`), not the caller's -/
def Budget (f : List (List α)) (M : Nat) (nRemove : Int) : Prop :=
  (clampRemove nRemove f.length M - 1).toNat ≤ (nonEx f M (List.range f.length)).length

/-- **C13 / C14: the compiled pcd kernel equals the published definition and stays inside its arrays**; the two
components are `pcdKernelF_safe` (C13, memory safety in all passes) and `pcd_engine_independent` (C14) -/
theorem pcdKernelF_refines (f : List (List α)) (M : Nat) (c : α) (nRemove : Int) (hne : f ≠ []) (hc : 0 < c)
    (hmax : AllMaxOnce f M) (hb : Budget f M nRemove) :
    pcdKernelF f M c nRemove = (pcdFallback f M c nRemove, true) := by
  obtain ⟨h1, h2⟩ := loop_sim f M c hc hmax (clampRemove nRemove f.length M - 1).toNat (pcdInitF f M c)
    (List.range f.length) _ (liveOK_range f M hne) (init_inv f M c hne hmax) hb
  unfold pcdKernelF
  dsimp only
  rw [h1, h2, pcdFallback_eq]

theorem pcdKernelF_safe (f : List (List α)) (M : Nat) (c : α) (nRemove : Int) (hne : f ≠ []) (hc : 0 < c)
    (hmax : AllMaxOnce f M) (hb : Budget f M nRemove) : (pcdKernelF f M c nRemove).2 = true := by
  rw [pcdKernelF_refines f M c nRemove hne hc hmax hb]

theorem pcd_engine_independent (f : List (List α)) (M : Nat) (c : α) (nRemove : Int) (hne : f ≠ []) (hc : 0 < c)
    (hmax : AllMaxOnce f M) (hb : Budget f M nRemove) :
    (pcdKernelF f M c nRemove).1 = pcdFallback f M c nRemove := by
  rw [pcdKernelF_refines f M c nRemove hne hc hmax hb]

theorem pcdKernelF_wellformed (f : List (List α)) (M : Nat) (c : α) (nRemove : Int) (hne : f ≠ []) (hc : 0 < c)
    (hmax : AllMaxOnce f M) (hb : Budget f M nRemove) :
    (∀ e ∈ (pcdKernelF f M c nRemove).1, WF e) ∧
    ∀ i, i < f.length → i ∈ extremesFirst f M → (pcdKernelF f M c nRemove).1.getD i (Ext.fin 0) = Ext.top := by
  rw [pcdKernelF_refines f M c nRemove hne hc hmax hb]
  exact ⟨pcdFallback_wellformed f M c hc nRemove, fun i hi hex => pcdFallback_extremes_top f M c nRemove i hi hex⟩

/-! ### bi-objective fronts meet both hypotheses -/

/-- a bi-objective front on which no point weakly dominates another one (non-dominated and free of
duplicates) -/
def Front2 (f : List (List α)) : Prop :=
  ∀ a b, a < f.length → b < f.length → a ≠ b → ¬ (xAt f a 0 ≤ xAt f b 0 ∧ xAt f a 1 ≤ xAt f b 1)

/-- two points never tie in an objective: the one that is no worse in the other objective would weakly dominate -/
theorem front2_ne {f : List (List α)} (h : Front2 f) {a b : Nat} (ha : a < f.length) (hb : b < f.length)
    (hab : a ≠ b) (m : Nat) (hm : m < 2) : xAt f a m ≠ xAt f b m := by
  intro heq
  obtain rfl | rfl : m = 0 ∨ m = 1 := by omega
  · rcases le_total (xAt f a 1) (xAt f b 1) with h1 | h1
    · exact h a b ha hb hab ⟨heq.le, h1⟩
    · exact h b a hb ha hab.symm ⟨heq.ge, h1⟩
  · rcases le_total (xAt f a 0) (xAt f b 0) with h1 | h1
    · exact h a b ha hb hab ⟨h1, heq.le⟩
    · exact h b a hb ha hab.symm ⟨h1, heq.ge⟩

theorem front2_maxOnce (f : List (List α)) (h : Front2 f) : AllMaxOnce f 2 := by
  intro m hm a b ha hb hamax hbmax
  rw [column_length f] at ha hb
  by_contra hab
  have hle1 := hamax b (by rwa [column_length f])
  have hle2 := hbmax a (by rwa [column_length f])
  rw [column_getD f, column_getD f] at hle1 hle2
  exact front2_ne h ha hb hab m hm (le_antisymm hle2 hle1)

/-- where no point weakly dominates another in the objectives `m`, `m'`, the first arg-min of `m` is the first arg-max of `m'` -/
theorem argminFirst_eq_argmaxFirst (f : List (List α)) (hne : f ≠ []) (m m' : Nat)
    (h : ∀ a b, a < f.length → b < f.length → a ≠ b → ¬ (xAt f a m ≤ xAt f b m ∧ xAt f a m' ≤ xAt f b m')) :
    argminFirst (column f m) = argmaxFirst (column f m') := by
  obtain ⟨a1, a2, _⟩ := argminFirst_firstMin (column f m) (column_ne_nil hne m)
  obtain ⟨b1, b2, _⟩ := argmaxFirst_firstMax (column f m') (column_ne_nil hne m')
  have h1 := a2 _ (by rwa [column_length f] at b1 ⊢)
  have h2 := b2 _ (by rwa [column_length f] at a1 ⊢)
  rw [column_length f] at a1 b1
  rw [column_getD f, column_getD f] at h1 h2
  by_contra hab
  exact h _ _ a1 b1 hab ⟨h1, h2⟩

/-- the four extremes of such a front are two points, so all but two points may be removed -/
theorem front2_budget (f : List (List α)) (hne : f ≠ []) (h : Front2 f) (nRemove : Int) : Budget f 2 nRemove := by
  have e1 := argminFirst_eq_argmaxFirst f hne 0 1 h
  have e2 := argminFirst_eq_argmaxFirst f hne 1 0 fun a b ha hb hab hd => h a b ha hb hab hd.symm
  have hlen := length_filter_two (List.nodup_range (n := f.length)) (argminFirst (column f 0))
    (argminFirst (column f 1)) (p := fun i => !(extremesFirst f 2).contains i) fun i _ h1 h2 => by
      simp only [extremesFirst, List.range_succ, List.range_zero, List.nil_append, List.map_cons, List.map_nil,
        List.cons_append, ← e1, ← e2]
      simp [h1, h2]
  rw [List.length_range] at hlen
  have hcl := clampRemove_le nRemove f.length 2
  unfold Budget nonEx
  omega

/-- **the case `pcd` is recommended for**: there `pcdKernelF_refines` is unconditional -/
theorem pcd_two_objectives (f : List (List α)) (c : α) (nRemove : Int) (hne : f ≠ []) (hc : 0 < c) (h : Front2 f) :
    pcdKernelF f 2 c nRemove = (pcdFallback f 2 c nRemove, true) :=
  pcdKernelF_refines f 2 c nRemove hne hc (front2_maxOnce f h) (front2_budget f hne h nRemove)

end C13
end Pymoode
