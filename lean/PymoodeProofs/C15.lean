/-
C15  Truncating a front keeps boundary points and prunes one at a time.   — PARTIAL —

FULL STATEMENT: when RankAndCrowding truncates a front to k ≥ 2·n_obj members the kept part attains
the front's min and max of every objective (all five metrics); with pcd / mnn / 2nn the dropped
members are exactly those of one-at-a-time greedy pruning when that sequence has no ties; with
cd / ce the members of smallest crowding computed once.

PROVED: (1) the truncation keeps every infinite-crowding member whenever their number fits
(`take_keeps_top`), hence (2) the boundary clause for any metric whose infinite values mark a
min-holder and a max-holder of each objective and number at most k (`boundary_retained`), with the
count bound for the crowding distance (`cdSorted_top_count`); (3) cd/ce: the dropped are the
members of smallest value computed once (`dropped_smallest`). (4) the pruning clause for the mnn / 2nn and the pcd
*definitions* (= pure-Python engines; `Metrics/MnnPruning.lean`, and `Pcd/Monotone.lean` under the hypotheses of the pcd
kernel's refinement theorem): throughout the removal loop every pruned point's value stays ≤ every live point's, so the
descending sort followed by the cut drops the pruned points first (`truncation_drops_removed`), then the live points of
smallest current value; when no compared values are equal the cut keeps exactly the live set of one-at-a-time pruning,
for both definitions and, through the refinement theorems, for the compiled kernels (`Greedy.lean`). Outside those
hypotheses both engines are checked against an independent greedy reference on every tie-free split front of the
correspondence run.
-/
import PymoodeProofs.C13
import Mathlib.Data.List.Count

set_option linter.unusedSectionVars false

namespace Pymoode
namespace C15
open C13

variable {α : Type} [Field α] [LinearOrder α] [IsStrictOrderedRing α] [Inhabited α]

/-- contract of the descending (randomised) argsort: no later member has a strictly larger value -/
def SortedDesc (v : Nat → Ext α) (s : List Nat) : Prop :=
  s.Pairwise fun a b => Ext.lt (v a) (v b) = false

/-- is `Ext.lt_fin_top` -/
theorem lt_top_of_fin (a : α) : Ext.lt (Ext.fin a) (Ext.top : Ext α) = true := rfl

/-- cd / ce (one-shot metrics): what the truncation drops are members whose value is no larger than
that of any kept member — "the members of smallest crowding value computed once" -/
theorem dropped_smallest (v : Nat → Ext α) (s : List Nat) (k : Nat) (hs : SortedDesc v s) :
    ∀ a ∈ s.take k, ∀ b ∈ s.drop k, Ext.lt (v a) (v b) = false :=
  fun _ ha _ hb => hs.rel_of_mem_take_of_mem_drop ha hb

/-- **the truncation `I[:-n_remove]` keeps every infinite-crowding member**, as long as there are
at most `k` of them (`k` = number kept) -/
theorem take_keeps_top (v : Nat → Ext α) (s : List Nat) (k : Nat) (hs : SortedDesc v s)
    (hcount : s.countP (fun x => (v x).isTop) ≤ k) :
    ∀ x ∈ s, (v x).isTop = true → x ∈ s.take k := by
  intro x hx htop
  by_contra hnot
  have hxd := mem_drop_of_not_mem_take hx hnot
  -- a dropped infinite `x` makes all `k` kept members infinite: `k + 1` infinite members in all
  have hall : ∀ a ∈ s.take k, (v a).isTop = true := fun a ha =>
    Ext.isTop_of_lt_eq_false (dropped_smallest v s k hs a ha x hxd) htop
  have h1 := List.countP_eq_length.mpr hall
  have h2 : 0 < (s.drop k).countP fun x => (v x).isTop := List.countP_pos_iff.mpr ⟨x, hxd, htop⟩
  have h3 := countP_take_add_drop (fun x => (v x).isTop) s k
  have h4 := List.length_pos_of_mem hxd
  rw [List.length_take] at h1
  rw [List.length_drop] at h4
  omega

/-- **the truncation drops every pruned point first.** `s`: the split front in descending crowding order; `removed k`:
`k` was pruned inside the metric. If every pruned point's value is strictly below every live point's, a kept part
`s.take m` that leaves room for the pruned points holds live points only; by `dropped_smallest` the further drops are
the live points of smallest current value — what greedy pruning removes next. -/
theorem truncation_drops_removed (v : Nat → Ext α) (s : List Nat) (removed : Nat → Bool) (hs : SortedDesc v s)
    (hstrict : ∀ k ∈ s, ∀ i ∈ s, removed k = true → removed i = false → Ext.lt (v k) (v i) = true)
    (m : Nat) (hm : m + s.countP removed ≤ s.length) :
    ∀ k ∈ s.take m, removed k = false := by
  intro k hk
  by_contra hrem
  have hrem' : removed k = true := (Bool.not_eq_false _).mp hrem
  -- a removed point among the first `m` leaves fewer removed points than places after `m`:
  -- some live point `i` sits there
  have hsplit := countP_take_add_drop removed s m
  have h1 : 0 < (s.take m).countP removed := List.countP_pos_iff.mpr ⟨k, hk, hrem'⟩
  obtain ⟨i, hi, hil⟩ := List.countP_lt_length_iff.mp
    (show (s.drop m).countP removed < (s.drop m).length by rw [List.length_drop]; omega)
  -- `k` stands before `i` in the descending order and is strictly below it
  have h2 := dropped_smallest v s m hs k hk i hi
  rw [hstrict k (List.mem_of_mem_take hk) i (List.mem_of_mem_drop hi) hrem' hil] at h2
  cases h2

/-- **boundary clause**: if the crowding metric gives an infinite value to some holder of the minimum of `obj` over
the front (for a maximum take `-obj`), and the infinite values fit into the kept part, the kept part still attains
that minimum -/
theorem boundary_retained (v : Nat → Ext α) (obj : Nat → α) (s : List Nat) (k : Nat)
    (hs : SortedDesc v s) (hcount : s.countP (fun x => (v x).isTop) ≤ k)
    (x : Nat) (hx : x ∈ s) (htop : (v x).isTop = true) (hmin : ∀ y ∈ s, obj x ≤ obj y) :
    ∃ z ∈ s.take k, ∀ y ∈ s, obj z ≤ obj y :=
  ⟨x, take_keeps_top v s k hs hcount x hx htop, hmin⟩

theorem countP_ends_le_two (L n : Nat) :
    (List.range n).countP (fun p => decide (p = 0 ∨ p + 1 = L)) ≤ 2 := by
  rw [List.countP_eq_length_filter]
  -- the positions counted are distinct members of `[0, L − 1]`
  refine (List.subperm_of_subset (List.nodup_range.filter _) fun x hx => ?_).length_le (l₂ := [0, L - 1])
  rcases of_decide_eq_true (List.mem_filter.mp hx).2 with h | h
  · exact h ▸ List.mem_cons_self
  · exact List.mem_cons_of_mem _ (List.mem_singleton.mpr (by omega))

/-- the crowding distance gives at most two infinite contributions per objective (whence at most `2·n_obj`
infinite members of a front: `C13.crowdingDistance_top_count`) -/
theorem cdSorted_top_count (s : List α) : (cdSorted s).countP Ext.isTop ≤ 2 := by
  rw [cdSorted_eq_map, List.countP_map]
  refine (List.countP_mono_left fun p _ h => ?_).trans (countP_ends_le_two s.length s.length)
  simp only [Function.comp_apply] at h
  split_ifs at h with _ hend
  · exact decide_eq_true hend
  · cases h
  · cases h

end C15
end Pymoode
