/-
C17  Runs are reproducible and independent of how the loop is driven.   — PARTIAL —

FULL STATEMENT: same problem, configuration and seed ⇒ identical populations and results in every
generation, whatever ran before in the process; `minimize` and ask-and-tell with external
evaluation (one by one, any order) give the same outcome.

PROVED (over the model): the run is a fold of a pure step, so it is a function of (initial state,
draw stream) and of nothing else; it composes over any split of the stream; the three-phase step is
independent of the order / batching in which the offspring are evaluated.
NOT MODELLED (named): NumPy's Mersenne Twister and its seeding by `Algorithm.setup`, interpreter
and third-party process state. That the real object has *no more state than the model's `σ`* is
what the correspondence run checks: `gen` records (next population = step of the previous one on
the recorded draws and oracles) and twin executions (`repro` records).
-/
import PymoodeModel.Run
import PymoodeProofs.Lib.List

namespace Pymoode
namespace C17

variable {σ δ χ υ : Type}

/-- a run composes over any split of the draw stream (also the basis of checkpoint/resume) -/
theorem run_split (step : σ → δ → σ) (s : σ) (d₁ d₂ : List δ) :
    runSteps step s (d₁ ++ d₂) = runSteps step (runSteps step s d₁) d₂ :=
  List.foldl_append

/-- same state, same draws ⇒ same result. A congruence, true of any function: what it records is that `runSteps`
has no argument besides the step, the state and the draws -/
theorem run_deterministic (step : σ → δ → σ) (s s' : σ) (d d' : List δ) (hs : s = s') (hd : d = d') :
    runSteps step s d = runSteps step s' d' := by subst hs; subst hd; rfl

theorem next_eq_ask_eval_tell (p : Phases σ δ χ υ) (s : σ) (d : δ) :
    p.step s d = p.tell s d ((p.ask s d).map fun x => (x, p.eval x)) := rfl

/-- one external evaluation: the step of the loop `evalInOrder` -/
def evalAt (eval : χ → υ) (xs : List χ) (acc : List (Option υ)) (j : Nat) : List (Option υ) :=
  match xs[j]? with
  | some x => acc.set j (some (eval x))
  | none => acc

theorem evalInOrder_eq_foldl (eval : χ → υ) (xs : List χ) (order : List Nat) :
    evalInOrder eval xs order = order.foldl (evalAt eval xs) (xs.map fun _ => none) := rfl

/-- on a result list as long as `xs`, one evaluation writes one position (an index outside `xs` writes nothing) -/
theorem evalAt_eq_set (eval : χ → υ) (xs : List χ) (acc : List (Option υ)) (h : acc.length = xs.length) (j : Nat) :
    evalAt eval xs acc j = acc.set j (xs[j]?.map eval) := by
  unfold evalAt
  split
  · next x hx => rw [hx]; rfl
  · next hx => rw [List.set_eq_of_length_le (h ▸ List.getElem?_eq_none_iff.mp hx)]

/-- so the loop is a fold that writes positions: `getElem?_foldl_set`, `length_foldl_set` describe it -/
theorem evalFold_eq (eval : χ → υ) (xs : List χ) (order : List Nat) (acc : List (Option υ))
    (h : acc.length = xs.length) :
    order.foldl (evalAt eval xs) acc = order.foldl (fun l i => l.set i (xs[i]?.map eval)) acc := by
  induction order generalizing acc with
  | nil => rfl
  | cons j o ih =>
    rw [List.foldl_cons, List.foldl_cons, evalAt_eq_set eval xs acc h, ih _ (by rw [List.length_set, h])]

theorem evalInOrder_getElem? (eval : χ → υ) (xs : List χ) (order : List Nat) (i : Nat) :
    (evalInOrder eval xs order)[i]? =
      if i ∈ order then xs[i]?.map fun x => some (eval x) else xs[i]?.map fun _ => none := by
  rw [evalInOrder_eq_foldl, evalFold_eq eval xs order _ (List.length_map _), getElem?_foldl_set, List.getElem?_map]
  cases xs[i]? <;> rfl

theorem evalInOrder_length (eval : χ → υ) (xs : List χ) (order : List Nat) :
    (evalInOrder eval xs order).length = xs.length := by
  rw [evalInOrder_eq_foldl, evalFold_eq eval xs order _ (List.length_map _), length_foldl_set, List.length_map]

theorem evalInOrder_get (eval : χ → υ) (xs : List χ) (order : List Nat) (i : Nat) (hi : i < xs.length) :
    (evalInOrder eval xs order)[i]? = some (if i ∈ order then some (eval xs[i]) else none) := by
  rw [evalInOrder_getElem?, List.getElem?_eq_getElem hi]
  split <;> rfl

/-- **evaluation order is irrelevant**: visiting every offspring once, in any order (one by one or
in any batching), yields exactly the evaluations `eval xs[i]` in place -/
theorem eval_order_irrelevant (eval : χ → υ) (xs : List χ) (order : List Nat)
    (hperm : order.Perm (List.range xs.length)) :
    evalInOrder eval xs order = xs.map fun x => some (eval x) := by
  apply List.ext_getElem?
  intro i
  rw [evalInOrder_getElem?, List.getElem?_map]
  split
  · rfl
  · rename_i hio
    -- an index that was not visited is out of range
    rw [List.getElem?_eq_none (Nat.le_of_not_lt fun hi => hio (hperm.symm.subset (List.mem_range.mpr hi)))]
    rfl

/-- two evaluation orders give the same evaluated offspring, hence (same `tell`) the same state -/
theorem eval_orders_agree (eval : χ → υ) (xs : List χ) (o₁ o₂ : List Nat)
    (h₁ : o₁.Perm (List.range xs.length)) (h₂ : o₂.Perm (List.range xs.length)) :
    evalInOrder eval xs o₁ = evalInOrder eval xs o₂ := by
  rw [eval_order_irrelevant eval xs o₁ h₁, eval_order_irrelevant eval xs o₂ h₂]

example : evalInOrder (fun x : Nat => x * x) [3, 4, 5] [2, 0, 1] = [some 9, some 16, some 25] := by decide

end C17
end Pymoode
