/-
C05  GDE3 applies the one-to-one rule before truncation.
`getRelation_spec` is the case table of `get_relation`; the slot rule (`gde3Slot_spec`) and what reaches the survival
(`candidate_not_dominated`, `gde3Candidates_subperm`) are read off it.
-/
import PymoodeModel.Algo
import PymoodeProofs.Lib.List
import Mathlib.Algebra.Field.Defs
import Mathlib.Algebra.Order.Ring.Defs

set_option linter.unusedSectionVars false

namespace Pymoode
namespace C05

variable {α : Type} [Field α] [LinearOrder α] [IsStrictOrderedRing α]

/-- constraint-domination: smaller total violation, or equal violation and Pareto-dominance -/
def CDom (a b : IndM α) : Prop := a.cv < b.cv ∨ (a.cv = b.cv ∧ dominates a.f b.f = true)

theorem not_cdom_of_cv_lt {p o : IndM α} (h : p.cv < o.cv) : ¬CDom o p := by
  rintro (h' | ⟨e, -⟩)
  · exact lt_asymm h h'
  · exact h.ne' e

/-- `get_relation` decides constraint-domination, three ways -/
theorem getRelation_spec (p o : IndM α) :
    (getRelation p.cv o.cv p.f o.f = 1 ∧ CDom p o ∧ ¬CDom o p) ∨
    (getRelation p.cv o.cv p.f o.f = -1 ∧ CDom o p ∧ ¬CDom p o) ∨
    (getRelation p.cv o.cv p.f o.f = 0 ∧ ¬CDom p o ∧ ¬CDom o p) := by
  rcases lt_trichotomy p.cv o.cv with h | h | h
  · exact .inl ⟨if_pos h, .inl h, not_cdom_of_cv_lt h⟩
  · -- equal violations: the four outcomes of the two `anyLt` tests
    unfold getRelation CDom dominates
    simp only [h, lt_irrefl, ↓reduceIte, false_or, true_and]
    cases anyLt p.f o.f <;> cases anyLt o.f p.f <;> decide
  · exact .inr (.inl ⟨by rw [getRelation, if_neg h.not_gt, if_pos h], .inl h, not_cdom_of_cv_lt h⟩)

theorem getRelation_range (cva cvb : α) (a b : List α) :
    getRelation cva cvb a b = 1 ∨ getRelation cva cvb a b = -1 ∨ getRelation cva cvb a b = 0 := by
  -- the relation reads `cv` and `f` only
  rcases getRelation_spec ⟨0, a, cva, false⟩ ⟨0, b, cvb, false⟩ with h | h | h
  exacts [.inl h.1, .inr (.inl h.1), .inr (.inr h.1)]

theorem getRelation_one_iff (p o : IndM α) : getRelation p.cv o.cv p.f o.f = 1 ↔ CDom p o := by
  rcases getRelation_spec p o with ⟨e, h, _⟩ | ⟨e, _, h⟩ | ⟨e, h, _⟩
  · exact iff_of_true e h
  · exact iff_of_false (by rw [e]; decide) h
  · exact iff_of_false (by rw [e]; decide) h

theorem getRelation_neg_one_iff (p o : IndM α) : getRelation p.cv o.cv p.f o.f = -1 ↔ CDom o p := by
  rcases getRelation_spec p o with ⟨e, _, h⟩ | ⟨e, h, _⟩ | ⟨e, _, h⟩
  · exact iff_of_false (by rw [e]; decide) h
  · exact iff_of_true e h
  · exact iff_of_false (by rw [e]; decide) h

theorem CDom.asymm {p o : IndM α} (h : CDom p o) : ¬CDom o p := by
  rcases getRelation_spec p o with ⟨_, _, h'⟩ | ⟨_, _, h'⟩ | ⟨_, h', _⟩
  exacts [h', absurd h h', absurd h h']

/-- **candidates of one slot**: exactly the winner, or both when neither constraint-dominates
the other (exact ties included) -/
theorem gde3Slot_spec (p o : IndM α) :
    (CDom p o ∧ gde3Slot p o = [p]) ∨ (CDom o p ∧ gde3Slot p o = [o]) ∨
    (¬CDom p o ∧ ¬CDom o p ∧ gde3Slot p o = [p, o]) := by
  unfold gde3Slot
  rcases getRelation_spec p o with ⟨e, h, _⟩ | ⟨e, h, _⟩ | ⟨e, h, h'⟩ <;> rw [e]
  · exact .inl ⟨h, rfl⟩
  · exact .inr (.inl ⟨h, rfl⟩)
  · exact .inr (.inr ⟨h, h', rfl⟩)

theorem mem_gde3Slot {p o x : IndM α} :
    x ∈ gde3Slot p o ↔ (x = p ∧ ¬CDom o p) ∨ (x = o ∧ ¬CDom p o) := by
  rcases gde3Slot_spec p o with ⟨h, e⟩ | ⟨h, e⟩ | ⟨h, h', e⟩
  · simp [e, h, h.asymm]
  · simp [e, h, h.asymm]
  · simp [e, h, h']

theorem gde3Slot_sublist (p o : IndM α) : (gde3Slot p o).Sublist [p, o] := by
  rcases gde3Slot_spec p o with ⟨_, e⟩ | ⟨_, e⟩ | ⟨_, _, e⟩ <;> simp [e]

theorem gde3Slot_ne_nil (p o : IndM α) : gde3Slot p o ≠ [] := by
  rcases gde3Slot_spec p o with ⟨_, e⟩ | ⟨_, e⟩ | ⟨_, _, e⟩ <;> exact e ▸ List.cons_ne_nil _ _

theorem mem_gde3Candidates : ∀ (ps os : List (IndM α)) (x : IndM α), x ∈ gde3Candidates ps os →
    ∃ k, ∃ (hp : k < ps.length) (ho : k < os.length), x ∈ gde3Slot ps[k] os[k] := by
  intro ps os x h
  fun_induction gde3Candidates ps os with
  | case1 p ps o os ih =>
      rcases List.mem_append.mp h with h | h
      · exact ⟨0, Nat.succ_pos _, Nat.succ_pos _, h⟩
      · obtain ⟨k, hp, ho, hx⟩ := ih h
        exact ⟨k + 1, Nat.succ_lt_succ hp, Nat.succ_lt_succ ho, hx⟩
  | case2 => nomatch h

/-- at least one candidate per slot, so the truncation can always fill `pop_size` places -/
theorem gde3Candidates_length_ge : ∀ (ps os : List (IndM α)), ps.length = os.length →
    ps.length ≤ (gde3Candidates ps os).length := by
  intro ps
  induction ps with
  | nil => exact fun _ _ => Nat.zero_le _
  | cons p ps ih =>
    rintro (_ | ⟨o, os⟩) h
    · nomatch h
    · rw [gde3Candidates, List.length_append, List.length_cons, Nat.add_comm]
      exact Nat.add_le_add (List.length_pos_iff.mpr (gde3Slot_ne_nil p o)) (ih os (Nat.succ.inj h))

theorem gde3Candidates_subperm (ps os : List (IndM α)) : (gde3Candidates ps os).Subperm (ps ++ os) := by
  fun_induction gde3Candidates ps os with
  | case1 p ps o os ih =>
      -- `slot ++ rest <+~ [p, o] ++ (ps ++ os) ~ (p :: ps) ++ (o :: os)`
      exact ((gde3Slot_sublist p o).subperm.append ih).trans
        ((List.perm_middle (a := o) (l₁ := ps) (l₂ := os)).symm.cons p).subperm
  | case2 => exact List.nil_subperm

/-- the one-to-one rule in terms of identities (all distinct): a candidate that carries the identity of an
occupant of slot `k` came from that slot, whose other occupant does not constraint-dominate it -/
theorem candidate_not_dominated (ps os : List (IndM α)) (hids : ((ps ++ os).map (·.id)).Nodup)
    {x : IndM α} (hx : x ∈ gde3Candidates ps os) {k : Nat} (hp : k < ps.length) (ho : k < os.length) :
    (x.id = ps[k].id → ¬CDom os[k] ps[k]) ∧ (x.id = os[k].id → ¬CDom ps[k] os[k]) := by
  rw [List.map_append, List.nodup_append] at hids
  obtain ⟨hps, hos, hdisj⟩ := hids
  have hpo : ∀ {i j : Nat} (hi : i < ps.length) (hj : j < os.length), ps[i].id ≠ os[j].id := fun hi hj =>
    hdisj _ (List.mem_map_of_mem (List.getElem_mem hi)) _ (List.mem_map_of_mem (List.getElem_mem hj))
  obtain ⟨k', hp', ho', hx'⟩ := mem_gde3Candidates ps os x hx
  -- `x` is the parent or the offspring of some slot `k'`; same kind and same identity means `k' = k`
  rcases mem_gde3Slot.mp hx' with ⟨rfl, hnd⟩ | ⟨rfl, hnd⟩
  · refine ⟨fun heq => ?_, fun heq => (hpo hp' ho heq).elim⟩
    obtain rfl := getElem_map_inj hps hp' hp heq
    exact hnd
  · refine ⟨fun heq => (hpo hp ho' heq.symm).elim, fun heq => ?_⟩
    obtain rfl := getElem_map_inj hos ho' ho heq
    exact hnd

/-- **an offspring constraint-dominated by the parent of its slot is not a candidate**, hence
(survivors ⊆ candidates, `C06.gde3_new_pop_subset`) never enters the next population. Identities are distinct. -/
theorem dominated_offspring_not_candidate (ps os : List (IndM α)) (k : Nat)
    (hp : k < ps.length) (ho : k < os.length) (hd : CDom ps[k] os[k])
    (hids : ((ps ++ os).map (·.id)).Nodup) :
    ∀ x ∈ gde3Candidates ps os, x.id ≠ os[k].id :=
  fun _ hx heq => (candidate_not_dominated ps os hids hx hp ho).2 heq hd

/-- **a parent constraint-dominated by its own offspring is not a candidate** -/
theorem dominated_parent_not_candidate (ps os : List (IndM α)) (k : Nat)
    (hp : k < ps.length) (ho : k < os.length) (hd : CDom os[k] ps[k])
    (hids : ((ps ++ os).map (·.id)).Nodup) :
    ∀ x ∈ gde3Candidates ps os, x.id ≠ ps[k].id :=
  fun _ hx heq => (candidate_not_dominated ps os hids hx hp ho).1 heq hd

end C05
end Pymoode
