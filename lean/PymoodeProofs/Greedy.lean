/-
C15, pruning clause: **the cut `I[:-n_remove]` of `RankAndCrowding._do` keeps exactly what one-at-a-time pruning keeps.**

Asked to drop `n_remove` members of a split front, `calc_mnn` / `calc_pcd` remove `n_remove − 1` points in their own
loop ("drop the most crowded member, re-compute the crowding of the others, repeat") and return the last array, in
which a removed point still holds the value it had when it left; `_do` sorts the front by that array, descending, and
cuts off the last `n_remove` positions.

PROVED: what the cut keeps is the live set of that loop after one removal more (`pruneLive` of `Lib/Prune.lean`: the
loop with its live set made explicit). `cut_is_greedy`: for any recomputation that keeps dead values ≤ live values
(`Stale`) and returned values that are a monotone image of the loop's array; `mnn_…`, `pcd_truncation_is_greedy`: for
the two definitions (= pure-Python engines), `1 ≤ n_remove ≤ N − M`, pcd under the hypotheses of `Pcd/Monotone.lean`;
`mnnKernel_…`, `pcdKernel_…`: for the compiled kernels, where the refinement theorems make their values those of the
definitions.

NOT PROVED: anything in the presence of ties. The count (`truncation_is_greedy_step`) needs every removed point
strictly below every live point and the live minimum attained once; the loop gives `≤` only, so the four theorems
assume that no two points return the same finite value and that the live minimum is finite.
-/
import PymoodeProofs.Mnn.Simulation
import PymoodeProofs.Pcd.Monotone
import PymoodeProofs.C15

namespace Pymoode
namespace C15
open C13

variable {α : Type} [Field α] [LinearOrder α] [IsStrictOrderedRing α] [Inhabited α]

/-- **the cut keeps the live points except the most crowded one.** `s`: the front in descending order of the returned
values `v`; `live`: the points alive after the metric's own removals; `r`: the live minimum -/
theorem truncation_is_greedy_step (v : Nat → Ext α) (n : Nat) (s live : List Nat) (r : Nat)
    (hsperm : s.Perm (List.range n)) (hs : SortedDesc v s)
    (hlnd : live.Nodup) (hlsub : ∀ i ∈ live, i < n) (hr : r ∈ live)
    (hstale : ∀ k, k < n → k ∉ live → ∀ i ∈ live, Ext.lt (v k) (v i) = true)
    (hmin : ∀ i ∈ live, i ≠ r → Ext.lt (v r) (v i) = true) :
    ∀ i, i ∈ s.take (live.length - 1) ↔ (i ∈ live ∧ i ≠ r) := by
  have hsmem : ∀ i, i ∈ s ↔ i < n := fun i => by rw [hsperm.mem_iff, List.mem_range]
  have hsnd : s.Nodup := hsperm.nodup_iff.mpr List.nodup_range
  have htake : (s.take (live.length - 1)).length = live.length - 1 := List.length_take_of_le
    ((Nat.sub_le _ _).trans (List.subperm_of_subset hlnd fun i hi => (hsmem i).mpr (hlsub i hi)).length_le)
  -- the cut keeps fewer points than are alive: some live point `i` is dropped
  obtain ⟨i, hil, hin⟩ : ∃ i ∈ live, i ∉ s.take (live.length - 1) := by
    by_contra h
    push Not at h
    exact absurd ((List.subperm_of_subset hlnd h).length_le.trans_eq htake)
      (Nat.not_le.mpr (Nat.sub_one_lt (List.length_pos_of_mem hr).ne'))
  have hid : i ∈ s.drop (live.length - 1) := mem_drop_of_not_mem_take ((hsmem i).mpr (hlsub i hil)) hin
  -- nothing kept is strictly below `i`: it is not a pruned point, and not `r` (`i ≠ r`, as `i` is not kept)
  have hkept : s.take (live.length - 1) ⊆ live.filter (· != r) := by
    intro x hx
    have hnlt := dropped_smallest v s _ hs x hx i hid
    refine mem_filter_ne.mpr ⟨by_contra fun h => ?_, fun e => ?_⟩
    · rw [hstale x ((hsmem x).mp (List.mem_of_mem_take hx)) h i hil] at hnlt
      cases hnlt
    · subst e
      rw [hmin i hil fun ei => hin (ei ▸ hx)] at hnlt
      cases hnlt
  -- as many kept points as live points other than `r`
  intro j
  rw [← mem_filter_ne]
  exact ((List.subperm_of_subset (hsnd.sublist (List.take_sublist _ _)) hkept).perm_of_length_le
    (by rw [htake, length_filter_ne hlnd hr])).mem_iff

/-- **the cut after one more greedy removal, whatever the metric.** `(live, d)`: the state of the loop after `k`
removals of `n` points; `w`: the values returned; `s`: the front in descending order of `w`. If the live minimum is
attained once in `w` and no pruned point has the value of a live point, the cut that drops `k + 1` members keeps the
live set after `k + 1` removals -/
theorem cut_is_greedy (rc : List Nat → List (Ext α) → List (Ext α)) (live0 : List Nat) (d0 : List (Ext α))
    (k n : Nat) (live : List Nat) (d : List (Ext α)) (hst : pruneLive rc k live0 d0 = (live, d)) (w : Nat → Ext α)
    (hnd : live.Nodup) (hlt : ∀ i ∈ live, i < n) (hlen : live.length = n - k) (hk : k < n) (hstale : Stale n live d)
    (hw : ∀ a b, extLe (d.getD a Ext.top) (d.getD b Ext.top) = true → extLe (w a) (w b) = true)
    (s : List Nat) (hsperm : s.Perm (List.range n)) (hs : SortedDesc w s) :
    ∃ r, dropLast d live = some r ∧
      ((∀ i ∈ live, i ≠ r → w r ≠ w i) → (∀ a, a < n → a ∉ live → ∀ i ∈ live, w a ≠ w i) →
        ∀ i, i ∈ s.take (n - (k + 1)) ↔ i ∈ (pruneLive rc (k + 1) live0 d0).1) := by
  obtain ⟨r, hr⟩ := dropLast_isSome d (List.ne_nil_of_length_pos (hlen ▸ Nat.sub_pos_of_lt hk))
  obtain ⟨hrl, hrmin⟩ := dropLast_min d hr
  refine ⟨r, hr, fun hmin hdead i => ?_⟩
  have hnext : (pruneLive rc (k + 1) live0 d0).1 = live.filter (· != r) := by
    rw [pruneLive_succ, hst]
    simp only [hr]
  rw [hnext, mem_filter_ne, Nat.sub_add_eq, ← hlen]
  -- `≤` (from `Stale`, from the minimality of `r`) between different values is `<`
  exact truncation_is_greedy_step w n s live r hsperm hs hnd hlt hrl
    (fun a ha hal i hil => Ext.lt_of_le_of_ne (hw a i (hstale a ha hal i hil)) (hdead a ha hal i hil))
    (fun i hil hir => Ext.lt_of_le_of_ne (hw r i (hrmin i hil)) (hmin i hil hir)) i

/-- … in particular if no two points share a finite value and the live minimum is finite -/
theorem cut_is_greedy_of_distinct (rc : List Nat → List (Ext α) → List (Ext α)) (live0 : List Nat)
    (d0 : List (Ext α)) (k n : Nat) (live : List Nat) (d : List (Ext α)) (hst : pruneLive rc k live0 d0 = (live, d))
    (w : Nat → Ext α) (hnd : live.Nodup) (hlt : ∀ i ∈ live, i < n) (hlen : live.length = n - k) (hk : k < n)
    (hstale : Stale n live d)
    (hw : ∀ a b, extLe (d.getD a Ext.top) (d.getD b Ext.top) = true → extLe (w a) (w b) = true)
    (s : List Nat) (hsperm : s.Perm (List.range n)) (hs : SortedDesc w s)
    (hstrict : ∀ a b, a < n → b < n → a ≠ b → w a ≠ w b ∨ (w a = Ext.top ∧ w b = Ext.top)) :
    ∃ r, dropLast d live = some r ∧
      (w r ≠ Ext.top → ∀ i, i ∈ s.take (n - (k + 1)) ↔ i ∈ (pruneLive rc (k + 1) live0 d0).1) := by
  obtain ⟨r, hr, h⟩ := cut_is_greedy rc live0 d0 k n live d hst w hnd hlt hlen hk hstale hw s hsperm hs
  have hrl := (dropLast_min d hr).1
  refine ⟨r, hr, fun hrfin => h
    (fun i hil hir => (hstrict r i (hlt r hrl) (hlt i hil) (Ne.symm hir)).resolve_right fun hh => hrfin hh.1)
    fun a ha hal i hil => (hstrict a i ha (hlt i hil) fun e => hal (e ▸ hil)).resolve_right fun hh => ?_⟩
  -- a pruned point is ≤ the live minimum `r`, so it is finite like `r`
  exact hrfin (extLe_top_left.mp (hh.1 ▸ hw a r (hstale a ha hal r hrl)))

/-- **C15 (mnn / 2nn definition): the members the cut keeps are exactly those one-at-a-time pruning keeps.**
`k = n_remove`, `s` the front in descending order of the returned values; if no two points return the same finite value
and the live minimum `r` before the last removal is finite, `s.take (N − k)` = the live set after `k` removals -/
theorem mnn_truncation_is_greedy (f : List (List α)) (nObj : Nat) (twonn : Bool) (k : Nat) (hk1 : 1 ≤ k)
    (hk2 : k + nObj ≤ f.length) (hbig : (if twonn then 2 else nObj) < f.length)
    (s : List Nat) (hsperm : s.Perm (List.range f.length))
    (hs : SortedDesc (fun i => (mnnFallback f nObj (k : Int) twonn).getD i Ext.top) s)
    (hstrict : ∀ a b, a < f.length → b < f.length → a ≠ b →
      (mnnFallback f nObj (k : Int) twonn).getD a Ext.top ≠ (mnnFallback f nObj (k : Int) twonn).getD b Ext.top ∨
      ((mnnFallback f nObj (k : Int) twonn).getD a Ext.top = Ext.top ∧ (mnnFallback f nObj (k : Int) twonn).getD b Ext.top = Ext.top)) :
    let x := normalizeCols f nObj
    let ex := extremesFirst f nObj
    let mNb := if twonn then 2 else nObj
    let d0 := mnnScratch x (List.range f.length) mNb ex f.length (f.map fun _ => Ext.top)
    let rc := fun lv old => mnnScratch x lv mNb ex f.length old
    (∃ r, dropLast (pruneLive rc (k - 1) (List.range f.length) d0).2 (pruneLive rc (k - 1) (List.range f.length) d0).1 = some r ∧
      ((mnnFallback f nObj (k : Int) twonn).getD r Ext.top ≠ Ext.top →
        ∀ i, i ∈ s.take (f.length - k) ↔ i ∈ (pruneLive rc k (List.range f.length) d0).1)) := by
  intro x ex mNb d0 rc
  obtain ⟨k, rfl⟩ := Nat.exists_eq_add_of_le' hk1
  -- asked for `k + 1` removals, `calc_mnn` returns the array of its loop after `k` of them
  have hfb : mnnFallback f nObj ((k + 1 : Nat) : Int) twonn = (pruneLive rc k (List.range f.length) d0).2 := by
    rw [mnnFallback_eq f nObj _ twonn hbig, clampRemove_succ_toNat hk2, pruneLive_snd]
  have hkn : k < f.length := (Nat.le_add_right (k + 1) nObj).trans hk2
  obtain ⟨hinv, hnd, hlen⟩ := pruneLive_inv x mNb ex f.length k (List.range f.length) d0
    (loopInv_init x mNb ex f.length _) List.nodup_range (hkn.le.trans_eq List.length_range.symm)
  rw [List.length_range] at hlen
  exact cut_is_greedy_of_distinct rc (List.range f.length) d0 k f.length _ _ rfl _ hnd hinv.live_lt hlen hkn
    hinv.toStale (fun _ _ h => by rwa [hfb]) s hsperm hs hstrict

/-- the same for the values the **compiled** mnn / 2nn kernel returns, on fronts without distance ties -/
theorem mnnKernel_truncation_is_greedy (f : List (List α)) (nObj : Nat) (twonn : Bool) (k : Nat) (hk1 : 1 ≤ k)
    (hk2 : k + nObj ≤ f.length) (hbig : (if twonn then 2 else nObj) < f.length)
    (h2 : (if twonn then 2 else nObj) ≤ nObj) (hnt : NoTies (normalizeCols f nObj) f.length)
    (s : List Nat) (hsperm : s.Perm (List.range f.length))
    (hs : SortedDesc (fun i => (mnnKernelF f nObj (k : Int) twonn).1.getD i Ext.top) s)
    (hstrict : ∀ a b, a < f.length → b < f.length → a ≠ b →
      (mnnKernelF f nObj (k : Int) twonn).1.getD a Ext.top ≠ (mnnKernelF f nObj (k : Int) twonn).1.getD b Ext.top ∨
      ((mnnKernelF f nObj (k : Int) twonn).1.getD a Ext.top = Ext.top ∧ (mnnKernelF f nObj (k : Int) twonn).1.getD b Ext.top = Ext.top)) :
    let x := normalizeCols f nObj
    let ex := extremesFirst f nObj
    let mNb := if twonn then 2 else nObj
    let d0 := mnnScratch x (List.range f.length) mNb ex f.length (f.map fun _ => Ext.top)
    let rc := fun lv old => mnnScratch x lv mNb ex f.length old
    (∃ r, dropLast (pruneLive rc (k - 1) (List.range f.length) d0).2 (pruneLive rc (k - 1) (List.range f.length) d0).1 = some r ∧
      ((mnnKernelF f nObj (k : Int) twonn).1.getD r Ext.top ≠ Ext.top →
        ∀ i, i ∈ s.take (f.length - k) ↔ i ∈ (pruneLive rc k (List.range f.length) d0).1)) := by
  rw [mnn_engine_independent f nObj (k : Int) twonn h2 hnt] at hs hstrict ⊢
  exact mnn_truncation_is_greedy f nObj twonn k hk1 hk2 hbig s hsperm hs hstrict

/-- **C15 (pcd definition): the members the cut keeps are exactly those one-at-a-time pruning keeps**; `c` is `M` as a
scalar, `hbud` the budget of `k` non-extreme points -/
theorem pcd_truncation_is_greedy (f : List (List α)) (M : Nat) (c : α) (k : Nat) (hne : f ≠ []) (hc : 0 < c)
    (hmax : AllMaxOnce f M) (hk1 : 1 ≤ k) (hk2 : k + M ≤ f.length)
    (hbud : k ≤ (nonEx f M (List.range f.length)).length)
    (s : List Nat) (hsperm : s.Perm (List.range f.length))
    (hs : SortedDesc (fun i => (pcdFallback f M c (k : Int)).getD i Ext.top) s)
    (hstrict : ∀ a b, a < f.length → b < f.length → a ≠ b →
      (pcdFallback f M c (k : Int)).getD a Ext.top ≠ (pcdFallback f M c (k : Int)).getD b Ext.top ∨
      ((pcdFallback f M c (k : Int)).getD a Ext.top = Ext.top ∧ (pcdFallback f M c (k : Int)).getD b Ext.top = Ext.top)) :
    let d0 := pcdScratch (normalizeCols f M) (List.range f.length) M (extremesFirst f M) f.length (f.map fun _ => Ext.top)
    (∃ r, dropLast (pruneLive (recomputeF f M) (k - 1) (List.range f.length) d0).2
        (pruneLive (recomputeF f M) (k - 1) (List.range f.length) d0).1 = some r ∧
      ((pcdFallback f M c (k : Int)).getD r Ext.top ≠ Ext.top →
        ∀ i, i ∈ s.take (f.length - k) ↔ i ∈ (pruneLive (recomputeF f M) k (List.range f.length) d0).1)) := by
  intro d0
  obtain ⟨k, rfl⟩ := Nat.exists_eq_add_of_le' hk1
  -- asked for `k + 1` removals, `calc_pcd` returns the array of its loop after `k` of them, divided by `c`
  have hfb : pcdFallback f M c ((k + 1 : Nat) : Int) =
      (pruneLive (recomputeF f M) k (List.range f.length) d0).2.map (Ext.mapFin (· / c)) := by
    rw [pcdFallback_eq, clampRemove_succ_toNat hk2, pruneLive_snd]
  obtain ⟨hl, hinv, hlen, _⟩ := pcd_pruneLive_inv f M hmax k (List.range f.length) d0 (liveOK_range f M hne)
    ⟨⟨_, rfl⟩, fun a ha hal => absurd (List.mem_range.mpr ha) hal⟩ (Nat.le_of_succ_le hbud)
  rw [List.length_range] at hlen
  exact cut_is_greedy_of_distinct (recomputeF f M) (List.range f.length) d0 k f.length _ _ rfl _ (live_nodup hl) hl.lt
    hlen ((Nat.le_add_right (k + 1) M).trans hk2) hinv.stale
    (fun a b h => by -- dividing by `c > 0` keeps the order
      rwa [hfb, getD_map_mapFin, getD_map_mapFin, extLe_mapFin_div c hc])
    s hsperm hs hstrict

/-- the same for the values the **compiled** pcd kernel returns -/
theorem pcdKernel_truncation_is_greedy (f : List (List α)) (M : Nat) (c : α) (k : Nat) (hne : f ≠ []) (hc : 0 < c)
    (hmax : AllMaxOnce f M) (hk1 : 1 ≤ k) (hk2 : k + M ≤ f.length)
    (hbud : k ≤ (nonEx f M (List.range f.length)).length)
    (s : List Nat) (hsperm : s.Perm (List.range f.length))
    (hs : SortedDesc (fun i => (pcdKernelF f M c (k : Int)).1.getD i Ext.top) s)
    (hstrict : ∀ a b, a < f.length → b < f.length → a ≠ b →
      (pcdKernelF f M c (k : Int)).1.getD a Ext.top ≠ (pcdKernelF f M c (k : Int)).1.getD b Ext.top ∨
      ((pcdKernelF f M c (k : Int)).1.getD a Ext.top = Ext.top ∧ (pcdKernelF f M c (k : Int)).1.getD b Ext.top = Ext.top)) :
    let d0 := pcdScratch (normalizeCols f M) (List.range f.length) M (extremesFirst f M) f.length (f.map fun _ => Ext.top)
    (∃ r, dropLast (pruneLive (recomputeF f M) (k - 1) (List.range f.length) d0).2
        (pruneLive (recomputeF f M) (k - 1) (List.range f.length) d0).1 = some r ∧
      ((pcdKernelF f M c (k : Int)).1.getD r Ext.top ≠ Ext.top →
        ∀ i, i ∈ s.take (f.length - k) ↔ i ∈ (pruneLive (recomputeF f M) k (List.range f.length) d0).1)) := by
  have hb : Budget f M (k : Int) := by
    unfold Budget
    rw [clampRemove_natCast hk2, Int.pred_toNat, Int.toNat_natCast]
    exact (Nat.sub_le k 1).trans hbud
  rw [pcdKernelF_refines f M c (k : Int) hne hc hmax hb] at hs hstrict ⊢
  exact pcd_truncation_is_greedy f M c k hne hc hmax hk1 hk2 hbud s hsperm hs hstrict

end C15
end Pymoode
