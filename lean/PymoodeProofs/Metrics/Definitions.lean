/-
C13 / C15: the pcd definition, with its local definitions named (`pcdSorted`, `pcdObj`; `Pcd/Simulation.lean` builds on
them), is well-formed and keeps the extremes infinite; one objective of ce is well-formed. Per objective, the crowding
distance makes a min-holder and a max-holder infinite (`cdObj_extreme_holders`) and no third point, hence at most
2·n_obj points of a front (`crowdingDistance_top_count`).
-/
import PymoodeProofs.C13
import PymoodeProofs.C15
import Mathlib.Algebra.Order.BigOperators.Group.List

set_option linter.unusedSectionVars false

namespace Pymoode
namespace C13

variable {α : Type} [Field α] [LinearOrder α] [IsStrictOrderedRing α] [Inhabited α]

open C15

/-! ### pcd definition (= pure-Python engine) -/

/-- `pcd`'s contribution of one objective by sorted position: the gaps to the two neighbours, a missing
neighbour counting as a zero gap -/
def pcdSorted (s : List α) : List (Ext α) :=
  (List.range s.length).map fun p =>
    Ext.fin ((if p = 0 then 0 else s.getD p default - s.getD (p - 1) default) +
      (if p + 1 = s.length then 0 else s.getD (p + 1) default - s.getD p default))

/-- … re-ordered from sorted position back to the points, as `cdObj` -/
def pcdObj (col : List α) : List (Ext α) :=
  (List.range col.length).map fun i =>
    (pcdSorted ((argsortStable col).map fun i => col.getD i default)).getD ((argsortStable col).idxOf i) (Ext.fin 0)

/-- `pcdScratch` with its local definitions named, as `scratchArr`: a live point gets the sum over the objectives at
its position in `live` -/
theorem pcdScratch_eq_scratchArr (x : List (List α)) (live : List Nat) (nObj : Nat) (ex : List Nat) (n : Nat)
    (old : List (Ext α)) : pcdScratch x live nObj ex n old = scratchArr ex live n (fun i =>
      (sumExt ((List.range nObj).map fun m => pcdObj (column (live.map fun i => x.getD i []) m)) live.length).getD
        (live.idxOf i) Ext.top) old := by
  refine List.map_congr_left fun i _ => if_congr List.contains_iff_mem rfl ?_
  by_cases hil : i ∈ live
  · rw [idxOf?_of_mem hil, if_pos hil]; rfl
  · rw [List.idxOf?_eq_none_iff.mpr hil, if_neg hil]

theorem pcdSorted_wellformed {s : List α} (hs : s.Pairwise (· ≤ ·)) : ∀ e ∈ pcdSorted s, WF e := by
  refine List.forall_mem_map.mpr fun p hp => ?_
  have hp := List.mem_range.mp hp
  refine add_nonneg ?_ ?_
  · split_ifs
    · exact le_rfl
    · exact gap_nonneg hs (Nat.sub_le p 1) hp
  · split_ifs with hend
    · exact le_rfl
    · exact gap_nonneg hs (Nat.le_succ p) (by omega)

theorem pcdObj_wellformed (col : List α) : ∀ e ∈ pcdObj col, WF e :=
  List.forall_mem_map.mpr fun _ _ => getD_of_forall (pcdSorted_wellformed (argsort_sorted col)) WF_zero _

theorem pcdScratch_wellformed (x : List (List α)) (live : List Nat) (nObj : Nat) (ex : List Nat) (n : Nat)
    (old : List (Ext α)) (hold : ∀ e ∈ old, WF e) :
    ∀ e ∈ pcdScratch x live nObj ex n old, WF e :=
  pcdScratch_eq_scratchArr x live nObj ex n old ▸ scratchArr_forall WF_top (fun _ _ => getD_of_forall
    (sumExt_wellformed _ _ (List.forall_mem_map.mpr fun _ _ => pcdObj_wellformed _)) WF_top _) hold

theorem pcdScratch_extremes_top (x : List (List α)) (live : List Nat) (nObj : Nat) (ex : List Nat) (n : Nat)
    (old : List (Ext α)) (i : Nat) (hi : i < n) (hex : i ∈ ex) :
    (pcdScratch x live nObj ex n old).getD i (Ext.fin 0) = Ext.top :=
  pcdScratch_eq_scratchArr x live nObj ex n old ▸ scratchArr_getD_ex hi hex _

/-- as `mnnFallback_induction`, with the final division -/
theorem pcdFallback_induction (P : List (Ext α) → Prop) (f : List (List α)) (nObj : Nat) (nObjS : α)
    (nRemove : Int) (htop : P (f.map fun _ => Ext.top))
    (hstep : ∀ x lv d, P d → P (pcdScratch x lv nObj (extremesFirst f nObj) f.length d))
    (hdiv : ∀ d, P d → P (d.map (Ext.mapFin (· / nObjS)))) : P (pcdFallback f nObj nObjS nRemove) :=
  hdiv _ (pruneLoop_preserves P _ (fun lv d hd => hstep _ lv d hd) _ _ _ (hstep _ _ _ htop))

/-- **pcd (definition = pure-Python engine), any number of removals**: well-formed values -/
theorem pcdFallback_wellformed (f : List (List α)) (nObj : Nat) (nObjS : α) (hpos : 0 < nObjS) (nRemove : Int) :
    ∀ e ∈ pcdFallback f nObj nObjS nRemove, WF e := by
  refine pcdFallback_induction (fun d => ∀ e ∈ d, WF e) f nObj nObjS nRemove (WF_map_top f)
    (fun x lv d hd => pcdScratch_wellformed x lv nObj _ _ d hd) fun d hd =>
      List.forall_mem_map.mpr fun e he => WF_div (hd e he) nObjS hpos

/-- … and every extreme (first arg-min / arg-max of each objective) stays infinite -/
theorem pcdFallback_extremes_top (f : List (List α)) (nObj : Nat) (nObjS : α) (nRemove : Int)
    (i : Nat) (hi : i < f.length) (hex : i ∈ extremesFirst f nObj) :
    (pcdFallback f nObj nObjS nRemove).getD i (Ext.fin 0) = Ext.top := by
  refine pcdFallback_induction (fun d => d.getD i (Ext.fin 0) = Ext.top) f nObj nObjS nRemove
    (getD_map_of_lt (fun _ => Ext.top) f _ hi) (fun x lv d _ => pcdScratch_extremes_top x lv nObj _ _ d i hi hex)
    fun d hd => ?_
  -- the default `0` divided is `0`, so `getD` commutes with the division; and `+inf` divided is `+inf`
  rw [← show Ext.mapFin (· / nObjS) (Ext.fin 0) = Ext.fin 0 from congrArg Ext.fin (zero_div nObjS), List.getD_map, hd]
  rfl

/-! ### crowding entropy -/

theorem ceSorted_eq_map (log2 neg : α → α) (s : List α) : ceSorted log2 neg s = (List.range s.length).map fun p =>
    if s.getD 0 default < s.getD (s.length - 1) default then
      if p = 0 ∨ p + 1 = s.length then Ext.top
      else
        let dl := s.getD p default - s.getD (p - 1) default
        let du := s.getD (p + 1) default - s.getD p default
        if (0 : α) < dl ∧ (0 : α) < du then
          Ext.fin ((dl + du) * neg (dl / (dl + du) * log2 (dl / (dl + du)) + du / (dl + du) * log2 (du / (dl + du))) /
            (s.getD (s.length - 1) default - s.getD 0 default))
        else Ext.fin 0
    else Ext.fin 0 := by
  by_cases h : s = []
  · subst h; rfl
  · simp only [ceSorted, head?_eq_some_getD h default, getLast?_eq_some_getD h default]
    split
    · rfl
    · rw [List.map_const', List.map_const', List.length_range]

theorem share_mul_log_nonpos (log2 : α → α) (hlog : ∀ p, 0 < p → p ≤ 1 → log2 p ≤ 0) {a c : α} (ha : 0 < a)
    (hac : a ≤ c) : a / c * log2 (a / c) ≤ 0 :=
  have hc : 0 < c := ha.trans_le hac
  mul_nonpos_of_nonneg_of_nonpos (div_pos ha hc).le (hlog _ (div_pos ha hc) ((div_le_one hc).mpr hac))

/-- the entropy contribution of an interior position with gaps `dl, du > 0`: the weight `dl + du` and the range
are positive, the two entropy terms are `≤ 0` -/
theorem entropy_contrib_nonneg (log2 : α → α) (hlog : ∀ p, 0 < p → p ≤ 1 → log2 p ≤ 0) {dl du norm : α}
    (hdl : 0 < dl) (hdu : 0 < du) (hn : 0 < norm) :
    0 ≤ (dl + du) * -(dl / (dl + du) * log2 (dl / (dl + du)) + du / (dl + du) * log2 (du / (dl + du))) / norm :=
  div_nonneg (mul_nonneg (add_pos hdl hdu).le (neg_nonneg.mpr (add_nonpos
    (share_mul_log_nonpos log2 hlog hdl (le_add_of_nonneg_right hdu.le))
    (share_mul_log_nonpos log2 hlog hdu (le_add_of_nonneg_left hdl.le))))) hn.le

set_option linter.unusedVariables false in -- `hs` is not needed: the guard `0 < dl ∧ 0 < du` does its work
/-- **ce, one objective**: with `log2 p ≤ 0` on `(0, 1]` (entropy terms non-negative) every
contribution is `+inf` or finite and non-negative -/
theorem ceSorted_wellformed (log2 : α → α) (hlog : ∀ p, 0 < p → p ≤ 1 → log2 p ≤ 0)
    (s : List α) (hs : s.Pairwise (· ≤ ·)) : ∀ e ∈ ceSorted log2 (fun x => -x) s, WF e := by
  rw [ceSorted_eq_map]
  refine List.forall_mem_map.mpr fun p _ => ?_
  split_ifs with hlt hend
  · trivial
  · dsimp only
    split_ifs with hpos
    · exact entropy_contrib_nonneg log2 hlog hpos.1 hpos.2 (sub_pos.mpr hlt)
    · exact WF_zero
  · exact WF_zero

/-! ### how many members the crowding distance makes infinite, and which -/

theorem countP_or_le {β : Type} (p q : β → Bool) (l : List β) :
    l.countP (fun x => p x || q x) ≤ l.countP p + l.countP q := by
  induction l with
  | nil => exact Nat.le_refl 0
  | cons x l ih =>
    have hx : (if (p x || q x) = true then 1 else 0) ≤ (if p x = true then 1 else 0) + (if q x = true then 1 else 0) := by
      cases p x <;> cases q x <;> decide
    rw [List.countP_cons, List.countP_cons, List.countP_cons]
    omega

theorem isTop_foldl_add (i : Nat) : ∀ (rows : List (List (Ext α))) (acc : Ext α),
    (rows.foldl (fun acc r => Ext.add acc (r.getD i (Ext.fin 0))) acc).isTop =
      (acc.isTop || rows.any fun r => (r.getD i (Ext.fin 0)).isTop) := by
  intro rows
  induction rows with
  | nil => exact fun acc => (Bool.or_false _).symm
  | cons r rows ih => intro acc; rw [List.foldl_cons, ih, Ext.isTop_add, List.any_cons, Bool.or_assoc]

theorem sumExt_top_iff (rows : List (List (Ext α))) (n i : Nat) (hi : i < n) :
    ((sumExt rows n).getD i (Ext.fin 0)).isTop = rows.any (fun r => (r.getD i (Ext.fin 0)).isTop) := by
  rw [sumExt_getD _ _ hi, isTop_foldl_add]
  rfl  -- the sum starts from the finite value `0`

theorem sumExt_top_count (rows : List (List (Ext α))) (n : Nat) :
    (sumExt rows n).countP Ext.isTop ≤
      (rows.map fun r => (List.range n).countP fun i => (r.getD i (Ext.fin 0)).isTop).sum := by
  have h1 : (sumExt rows n).countP Ext.isTop =
      (List.range n).countP fun i => rows.any fun r => (r.getD i (Ext.fin 0)).isTop := by
    rw [sumExt, List.countP_map]
    exact List.countP_congr fun i _ => by rw [Function.comp_apply, isTop_foldl_add]; rfl
  rw [h1]
  clear h1
  induction rows with
  | nil => simp
  | cons r rs ih =>
    simp only [List.any_cons, List.map_cons, List.sum_cons]
    exact (countP_or_le _ _ _).trans (Nat.add_le_add_left ih _)

theorem cdObj_getD_sorted (col : List α) {p : Nat} (hp : p < col.length) :
    (cdObj col).getD ((argsortStable col).getD p 0) (Ext.fin 0) =
      (cdSorted ((argsortStable col).map fun i => col.getD i default)).getD p (Ext.fin 0) := by
  rw [cdObj_getD col _ (argsort_getD_lt col hp),
    idxOf_getD_of_nodup (argsort_nodup col) (by rwa [argsort_length])]

/-- per objective the crowding distance makes at most two *points* infinite -/
theorem cdObj_top_count (col : List α) :
    (List.range col.length).countP (fun i => ((cdObj col).getD i (Ext.fin 0)).isTop) ≤ 2 := by
  have hlen : (cdSorted ((argsortStable col).map fun i => col.getD i default)).length = col.length := by
    rw [cdSorted_length, List.length_map, argsort_length]
  -- count by sorted position instead of by point: the two infinite contributions of `cdSorted`
  rw [countP_range_perm (argsort_perm col),
    List.countP_congr fun p hp => by rw [cdObj_getD_sorted col (List.mem_range.mp hp)], ← hlen,
    ← countP_eq_countP_getD _ (Ext.fin 0) Ext.isTop]
  exact cdSorted_top_count _

theorem crowdingDistance_top_count (f : List (List α)) (nObj : Nat) (nObjS : α) :
    (crowdingDistance f nObj nObjS).countP Ext.isTop ≤ 2 * nObj := by
  have e : (Ext.isTop ∘ Ext.mapFin fun x => x / nObjS) = (Ext.isTop : Ext α → Bool) := funext (Ext.isTop_mapFin _)
  rw [crowdingDistance, List.countP_map, e]
  refine (sumExt_top_count _ _).trans ?_
  -- `nObj` summands, each at most 2
  rw [List.map_map]
  refine (List.sum_le_card_nsmul _ 2 fun c hc => ?_).trans_eq (by simp [Nat.mul_comm])
  obtain ⟨m, -, rfl⟩ := List.mem_map.mp hc
  have := cdObj_top_count (column f m)
  rwa [column, List.length_map] at this

/-- **one objective's contribution to the crowding distance is infinite at a point holding the minimum and at a point
holding the maximum of that objective, if it is not constant** -/
theorem cdObj_extreme_holders (col : List α) (j k : Nat) (hj : j < col.length) (hk : k < col.length)
    (hjk : col.getD j default < col.getD k default) :
    ∃ lo hi, lo < col.length ∧ hi < col.length ∧
      ((cdObj col).getD lo (Ext.fin 0)) = Ext.top ∧ ((cdObj col).getD hi (Ext.fin 0)) = Ext.top ∧
      (∀ t, t < col.length → col.getD lo default ≤ col.getD t default) ∧
      (∀ t, t < col.length → col.getD t default ≤ col.getD hi default) := by
  have hn : 0 < col.length := Nat.zero_lt_of_lt hj
  have hlast : col.length - 1 < col.length := Nat.sub_one_lt hn.ne'
  -- the points at the first and the last sorted position hold the minimum and the maximum
  have hmin : ∀ t, t < col.length →
      col.getD ((argsortStable col).getD 0 0) default ≤ col.getD t default := fun t ht => by
    have := argsort_getD_le col (Nat.zero_le _) (argsort_idxOf col ht).1
    rwa [(argsort_idxOf col ht).2] at this
  have hmax : ∀ t, t < col.length →
      col.getD t default ≤ col.getD ((argsortStable col).getD (col.length - 1) 0) default := fun t ht => by
    have := argsort_getD_le col (Nat.le_sub_one_of_lt (argsort_idxOf col ht).1) hlast
    rwa [(argsort_idxOf col ht).2] at this
  -- the sorted column is not constant, so `cdSorted` makes its two ends infinite
  have hsl : ((argsortStable col).map fun i => col.getD i default).length = col.length := by
    rw [List.length_map, argsort_length]
  have hne := List.ne_nil_of_length_pos (hsl ▸ hn)
  obtain ⟨t0, t1⟩ := cdSorted_ends_top _ _ _ (head?_eq_some_getD hne default) (getLast?_eq_some_getD hne default) (by
    rw [hsl, sorted_getD col hn, sorted_getD col hlast]
    exact (hmin j hj).trans_lt (hjk.trans_le (hmax k hk)))
  rw [hsl] at t1
  exact ⟨_, _, argsort_getD_lt col hn, argsort_getD_lt col hlast, (cdObj_getD_sorted col hn).trans t0,
    (cdObj_getD_sorted col hlast).trans t1, hmin, hmax⟩


end C13
end Pymoode
