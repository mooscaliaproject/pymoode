/-
C02  Single-objective DE replaces one-to-one and never loses ground.
`ImprovementReplacement.do` = replacement mask, slot-wise choice, fitness sort. A slot takes the offspring only where it
`improves` on the parent, so every old member is matched by a new one that is no worse: in one generation
(`replaceStep_no_worse`) and over any sequence of offspring (`best_monotone`).
-/
import PymoodeModel.Replacement
import PymoodeProofs.Lib.List
import PymoodeProofs.C12
import Mathlib.Algebra.Field.Defs
import Mathlib.Algebra.Order.Ring.Defs

set_option linter.unusedSectionVars false

namespace Pymoode
namespace C02

section Slots
variable {β : Type}

/-- the model has the masked merge twice: `slotChoice` (replacement) is `trialRow` (crossover), and C12 has its lemmas -/
theorem slotChoice_eq_trialRow : ∀ (ms : List Bool) (ps os : List (Ind1 β)), slotChoice ms ps os = trialRow ms ps os := by
  intro ms ps os
  fun_induction slotChoice ms ps os with
  | case1 m ms p ps o os ih => rw [trialRow, ih]; cases m <;> rfl
  | case2 ms ps os h => rw [trialRow]; exact fun m ms' p ps' o os' e1 e2 e3 => h m ms' p ps' o os' e1 e2 e3

theorem slotChoice_length (ms : List Bool) (ps os : List (Ind1 β)) :
    (slotChoice ms ps os).length = min ms.length (min ps.length os.length) := by
  rw [slotChoice_eq_trialRow, C12.trialRow_eq_zipWith, List.length_zipWith, List.length_zip]

variable [LT β] [DecidableLT β] [BEq β]

theorem replaceMaskAux_length (constr : Bool) (pop : List (Ind1 β)) : ∀ (ps os seen : List (Ind1 β)),
    (replaceMaskAux constr pop ps os seen).length = min ps.length os.length := by
  intro ps
  induction ps with
  | nil => exact fun _ _ => (Nat.zero_min _).symm
  | cons p ps ih =>
    rintro (_ | ⟨o, os⟩) seen
    · exact (Nat.min_zero _).symm
    · rw [replaceMaskAux, List.length_cons, ih os, List.length_cons, List.length_cons, Nat.succ_min_succ]

end Slots

variable {α : Type} [Field α] [LinearOrder α] [IsStrictOrderedRing α]

/-- "strictly better" as property C02 words it (the three cases commented in `ImprovementReplacement._do`) -/
def StrictlyBetter (constr : Bool) (p o : Ind1 α) : Prop :=
  if constr then
    (¬p.feas ∧ ¬o.feas ∧ o.cv < p.cv) ∨ (¬p.feas ∧ o.feas) ∨ (p.feas ∧ o.feas ∧ o.f < p.f)
  else o.f < p.f

theorem improves_iff (constr : Bool) (p o : Ind1 α) :
    improves constr p o = true ↔ StrictlyBetter constr p o := by
  cases constr
  · exact decide_eq_true_iff
  · simp only [improves, StrictlyBetter, if_true, Bool.or_eq_true, Bool.and_eq_true, Bool.not_eq_true', decide_eq_true_eq,
      Bool.not_eq_true, and_assoc, or_assoc]

theorem isDuplicate_iff (pop seen : List (Ind1 α)) (o : Ind1 α) :
    isDuplicate pop seen o = true ↔ (∃ e ∈ seen, e.x = o.x) ∨ (∃ p ∈ pop, p.x = o.x) := by
  simp only [isDuplicate, sameX, Bool.or_eq_true, List.any_eq_true, beq_iff_eq]

/-- **slot rule**: slot `k` of the merged population holds offspring `k` where the mask is set, else parent `k` -/
theorem slotChoice_get (ms : List Bool) (ps os : List (Ind1 α)) :
    ∀ (k : Nat) (hm : k < ms.length) (hp : k < ps.length) (ho : k < os.length)
      (h : k < (slotChoice ms ps os).length),
      (slotChoice ms ps os)[k] = if ms[k] then os[k] else ps[k] := by
  intro k hm hp ho h
  simp only [slotChoice_eq_trialRow]
  exact C12.trialRow_get ms ps os k hm hp ho _

theorem mem_slotChoice {ms : List Bool} {ps os : List (Ind1 α)} {q : Ind1 α} (h : q ∈ slotChoice ms ps os) :
    q ∈ ps ∨ q ∈ os :=
  C12.mem_trialRow ms ps os q (slotChoice_eq_trialRow ms ps os ▸ h)

theorem replaceMaskAux_get (constr : Bool) (pop : List (Ind1 α)) :
    ∀ (ps os seen : List (Ind1 α)) (k : Nat) (hp : k < ps.length) (ho : k < os.length)
      (h : k < (replaceMaskAux constr pop ps os seen).length),
      (replaceMaskAux constr pop ps os seen)[k] =
        (improves constr ps[k] os[k] && !isDuplicate pop (seen ++ os.take k) os[k]) := by
  intro ps os seen
  fun_induction replaceMaskAux constr pop ps os seen with
  | case1 p ps o os seen ih =>
    intro k hp ho h
    cases k with
    | zero => simp only [List.getElem_cons_zero, List.take_zero, List.append_nil]
    | succ k =>
      simp only [List.getElem_cons_succ, List.take_succ_cons]
      rw [ih k (Nat.lt_of_succ_lt_succ hp) (Nat.lt_of_succ_lt_succ ho), List.append_assoc, List.singleton_append]
  | case2 ps os seen _ => intro k _ _ h; cases h

theorem replaceStep_perm (constr : Bool) (pop off : List (Ind1 α)) :
    (replaceStep constr pop off).Perm (slotChoice (replaceMask constr pop off) pop off) :=
  List.mergeSort_perm _ _

theorem replaceStep_length (constr : Bool) (pop off : List (Ind1 α)) (h : pop.length = off.length) :
    (replaceStep constr pop off).length = pop.length := by
  rw [(replaceStep_perm constr pop off).length_eq, slotChoice_length, replaceMask, replaceMaskAux_length, ← h,
    Nat.min_self, Nat.min_self]

/-- lexicographic order of `np.lexsort([F, cv])` -/
def LexLe (a b : Ind1 α) : Prop := a.cv < b.cv ∨ (a.cv = b.cv ∧ a.f ≤ b.f)

theorem lexLeB_iff (a b : Ind1 α) : lexLeB a b = true ↔ LexLe a b := by
  simp only [lexLeB, LexLe, Bool.or_eq_true, Bool.and_eq_true, Bool.not_eq_true', decide_eq_true_eq,
    decide_eq_false_iff_not, not_lt]
  exact or_congr_right' fun h => and_congr_left' ⟨fun h' => le_antisymm h' (not_lt.mp h), le_of_eq⟩

theorem LexLe.refl (a : Ind1 α) : LexLe a a := Or.inr ⟨rfl, le_rfl⟩

theorem LexLe.trans {a b c : Ind1 α} (h1 : LexLe a b) (h2 : LexLe b c) : LexLe a c := by
  unfold LexLe at *
  rcases h1 with h1 | ⟨h1, h1'⟩ <;> rcases h2 with h2 | ⟨h2, h2'⟩
  · exact Or.inl (lt_trans h1 h2)
  · exact Or.inl (h2 ▸ h1)
  · exact Or.inl (h1 ▸ h2)
  · exact Or.inr ⟨h1.trans h2, le_trans h1' h2'⟩

theorem LexLe.total (a b : Ind1 α) : LexLe a b ∨ LexLe b a := by
  unfold LexLe
  rcases lt_trichotomy a.cv b.cv with h | h | h
  · exact Or.inl (Or.inl h)
  · rcases le_total a.f b.f with h' | h'
    · exact Or.inl (Or.inr ⟨h, h'⟩)
    · exact Or.inr (Or.inr ⟨h.symm, h'⟩)
  · exact Or.inr (Or.inl h)

theorem fitnessSort_sorted (l : List (Ind1 α)) : (fitnessSort l).Pairwise LexLe :=
  pairwise_mergeSort_of_iff lexLeB_iff (fun _ _ _ => LexLe.trans) LexLe.total l

/-- **ordered best-first**: the result is sorted by (cv, F); `rank` = position -/
theorem replaceStep_sorted (constr : Bool) (pop off : List (Ind1 α)) :
    (replaceStep constr pop off).Pairwise LexLe :=
  fitnessSort_sorted _

/-- `rel_head_of_pairwise` with the list written `b :: t` -/
theorem head_best (l : List (Ind1 α)) (hs : l.Pairwise LexLe) (b : Ind1 α) (t : List (Ind1 α))
    (h : l = b :: t) : ∀ q ∈ l, LexLe b q := by
  subst h
  exact rel_head_of_pairwise LexLe.refl hs

/-- pymoo's feasibility convention (checked on every record): `CV ≥ 0`, feasible ⇔ `CV ≤ 0` -/
def CvOk (i : Ind1 α) : Prop := 0 ≤ i.cv ∧ (i.feas = true ↔ i.cv ≤ 0)

theorem improves_lexLe (p o : Ind1 α) (hp : CvOk p) (ho : CvOk o)
    (h : improves true p o = true) : LexLe o p := by
  rw [improves_iff] at h
  simp only [StrictlyBetter, ↓reduceIte] at h
  rcases h with ⟨_, _, h⟩ | ⟨h1, h2⟩ | ⟨h1, h2, h3⟩
  · exact Or.inl h
  · -- by `CvOk` the feasible offspring has `cv ≤ 0`, the infeasible parent `cv > 0`
    exact Or.inl (lt_of_le_of_lt (ho.2.mp h2) (not_le.mp fun hc => h1 (hp.2.mpr hc)))
  · -- both feasible: both `cv` are `0`
    exact Or.inr ⟨(le_antisymm (ho.2.mp h2) ho.1).trans (le_antisymm (hp.2.mp h1) hp.1).symm, le_of_lt h3⟩

/-- one generation, whatever the reason `hacc` why offspring that `improves constr` accepts are no worse -/
theorem replaceStep_no_worse_of (constr : Bool) (pop off : List (Ind1 α)) (hl : pop.length = off.length)
    (hacc : ∀ p ∈ pop, ∀ o ∈ off, improves constr p o = true → LexLe o p) :
    ∀ p ∈ pop, ∃ q ∈ replaceStep constr pop off, LexLe q p := by
  intro p hp
  obtain ⟨k, hk, rfl⟩ := List.mem_iff_getElem.mp hp
  have hko : k < off.length := hl ▸ hk
  have hm : k < (replaceMask constr pop off).length := by
    rw [replaceMask, replaceMaskAux_length]; exact lt_min hk hko
  have hs : k < (slotChoice (replaceMask constr pop off) pop off).length := by
    rw [slotChoice_length]; exact lt_min hm (lt_min hk hko)
  refine ⟨_, (replaceStep_perm constr pop off).symm.subset (List.getElem_mem hs), ?_⟩
  -- the slot holds the offspring only where the mask is set, and there the offspring `improves` on the parent
  rw [slotChoice_get _ pop off k hm hk hko hs]
  split
  · next hmk =>
    have := (replaceMaskAux_get constr pop pop off [] k hk hko hm).symm.trans hmk
    exact hacc _ hp _ (List.getElem_mem hko) (Bool.and_eq_true_iff.mp this).1
  · exact LexLe.refl _

/-- **never loses ground, one generation (constrained or not)**: for every member of the old
population the new population holds a member that is at least as good in the (cv, F) order -/
theorem replaceStep_no_worse (constr : Bool) (pop off : List (Ind1 α)) (hl : pop.length = off.length)
    (hcv : constr = true → (∀ i ∈ pop, CvOk i) ∧ (∀ i ∈ off, CvOk i))
    (hunc : constr = false → ∀ i ∈ pop ++ off, i.cv = 0) :
    ∀ p ∈ pop, ∃ q ∈ replaceStep constr pop off, LexLe q p := by
  refine replaceStep_no_worse_of constr pop off hl fun p hp o ho hi => ?_
  cases constr with
  | true => exact improves_lexLe p o ((hcv rfl).1 p hp) ((hcv rfl).2 o ho) hi
  | false =>
    -- no violations anywhere, and the offspring has the smaller F
    exact Or.inr ⟨(hunc rfl o (List.mem_append_right _ ho)).trans (hunc rfl p (List.mem_append_left _ hp)).symm,
      le_of_lt ((improves_iff false p o).mp hi)⟩

/-- any number of generations, for any property `P` of individuals under which accepted offspring are no worse
(`CvOk`; on unconstrained problems `cv = 0`) -/
theorem foldl_no_worse (constr : Bool) (P : Ind1 α → Prop)
    (hacc : ∀ p o, P p → P o → improves constr p o = true → LexLe o p) (offs : List (List (Ind1 α))) :
    ∀ pop : List (Ind1 α), (∀ i ∈ pop, P i) → (∀ off ∈ offs, off.length = pop.length ∧ ∀ i ∈ off, P i) →
      ∀ p ∈ pop, ∃ q ∈ offs.foldl (replaceStep constr) pop, LexLe q p := by
  induction offs with
  | nil => exact fun pop _ _ p hp => ⟨p, hp, LexLe.refl p⟩
  | cons off offs ih =>
    intro pop hpop hoffs p hp
    obtain ⟨⟨hlen, hoff⟩, hoffs⟩ := List.forall_mem_cons.mp hoffs
    obtain ⟨q, hq, hle⟩ := replaceStep_no_worse_of constr pop off hlen.symm
      (fun p hp o ho => hacc p o (hpop p hp) (hoff o ho)) p hp
    -- the next population consists of parents and offspring, so `P` still holds of it
    have hP : ∀ i ∈ replaceStep constr pop off, P i := fun i hi =>
      (mem_slotChoice ((replaceStep_perm constr pop off).subset hi)).elim (hpop i) (hoff i)
    obtain ⟨q', hq', hle'⟩ := ih (replaceStep constr pop off) hP (fun o ho =>
      ⟨(hoffs o ho).1.trans (replaceStep_length constr pop off hlen.symm).symm, (hoffs o ho).2⟩) q hq
    exact ⟨q', hq', hle'.trans hle⟩

/-- **never loses ground, any number of generations**: `foldl_no_worse` for the acceptance test of a constrained
problem. The offspring of every generation are universally quantified (every variant / repair / parameter setting). -/
theorem best_monotone (offs : List (List (Ind1 α))) :
    ∀ (pop : List (Ind1 α)),
      (∀ i ∈ pop, CvOk i) → (∀ off ∈ offs, off.length = pop.length ∧ ∀ i ∈ off, CvOk i) →
      ∀ p ∈ pop, ∃ q ∈ offs.foldl (replaceStep true) pop, LexLe q p :=
  foldl_no_worse true CvOk improves_lexLe offs

end C02
end Pymoode
