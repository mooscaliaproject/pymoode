/-
C19  Stochastic operators sample the distributions their parameters name.   — PARTIAL —

FULL STATEMENT: binomial crossover takes each coordinate independently with probability CR (plus a
forced one when none was drawn); exponential crossover has a block length geometric in CR truncated
at n_var; dithered F is uniform over its range, jitter uniform and centred on 1, random parents
uniform over the admissible individuals, bounce-back / rand-init uniform on their segment.

PROVED: the *events* — each outcome as an exact set of draws of NumPy's primitives: a coordinate is
taken iff its own draw is `< CR`; block length ≥ k iff the first k draws are `< CR`; dither, jitter,
bounce-back and rand-init are the affine maps of `[0,1)` onto the stated segment of `Lib/Affine.lean`,
increasing (after an upper violation: decreasing): strictly monotone and onto, each stated here for
some of the operators (the bounds are in C10 and C11); a pass of the re-selection loop leaves a row
with an admissible candidate alone (that the parent a row ends with is therefore the first admissible
candidate offered to it is argued, not proved), and admissible values are exchangeable (the transposition of two admissible values
commutes with the selection). `C19b.lean` goes from the events to the laws, by counting over the
grid of NumPy's draws.
NOT MODELLED: the law of NumPy's generator ("the primitives are i.i.d. uniform"). The call
signatures (`choice(n_pop, …)`, `randint(0, n_var)`, one `random(n_matings)` per difference …) are
compared on every record of the operator components; the real code is additionally subjected to
exact finite-sample tests (binomial tails, Dvoretzky–Kiefer–Wolfowitz bound) with total false-alarm
probability ≤ 1e-9.
-/
-- needed: C09 and this file run `fun_induction redraw`; generated twice, its principle would clash in the root module
import PymoodeProofs.C09
import PymoodeProofs.C10
import PymoodeProofs.C12
import PymoodeModel.Repair

set_option linter.unusedSectionVars false

namespace Pymoode
namespace C19

variable {α : Type} [Field α] [LinearOrder α] [IsStrictOrderedRing α]

/-- binomial crossover: coordinate `j` is taken from the mutant iff *its own* draw is `< CR` -/
theorem bin_event (cr : α) (rs : List α) (j : Nat) (h : j < rs.length) :
    (binRow cr rs)[j]'(by simpa [binRow] using h) = true ↔ rs[j] < cr := by
  simp [binRow]

theorem forced_only_when_empty (m : List Bool) (k : Nat) :
    forceOne m k = m ∨ (m.any id = false ∧ forceOne m k = m.set k true) :=
  (Bool.eq_false_or_eq_true (m.any id)).imp (C12.forceOne_noop m k) fun h => ⟨h, C12.forceOne_of_not_any k h⟩

/-- exponential crossover: block length ≥ k ⇔ the first k continuation draws are all `< CR` (cylinder sets ⇒ geometric
law truncated at `n_var`); is `C12.expLen_ge_iff` -/
theorem exp_len_event (cr : α) (n : Nat) (rs : List α) (k : Nat) (hk : k ≤ n) (hl : k ≤ rs.length) :
    k ≤ expLen cr n rs ↔ ∀ i (_ : i < k) (h2 : i < rs.length), rs[i] < cr :=
  C12.expLen_ge_iff cr n rs k hk hl

/-- dither is strictly increasing in the draw; with `dither_onto` and `dither_into`, a bijection of
`[0,1)` onto `[lo, hi)` -/
theorem dither_strict_mono (lo hi r r' : α) (h : lo < hi) (hr : r < r') :
    scaleDither lo hi r < scaleDither lo hi r' :=
  lerp_lt_lerp h hr

theorem dither_onto (lo hi y : α) (h : lo < hi) (hy : lo ≤ y ∧ y < hi) :
    ∃ r, 0 ≤ r ∧ r < 1 ∧ scaleDither lo hi r = y :=
  lerp_onto h hy

theorem dither_into (lo hi r : α) (h : lo < hi) (hr0 : 0 ≤ r) (hr1 : r < 1) :
    lo ≤ scaleDither lo hi r ∧ scaleDither lo hi r < hi :=
  ⟨le_lerp h.le hr0, lerp_lt h hr1⟩

example : scaleDither (1:ℚ) 3 (1/2) = 2 := by decide +kernel

theorem jitter_strict_mono (γ r r' : α) (hγ : 0 < γ) (hr : r < r') : jitterFactor γ r < jitterFactor γ r' := by
  rw [C10.jitter_eq, C10.jitter_eq]
  exact lerp_lt_lerp (C10.jitter_ends hγ) hr

theorem jitter_onto (γ y : α) (hγ : 0 < γ) (hy : 1 - γ / 2 ≤ y ∧ y < 1 + γ / 2) :
    ∃ r, 0 ≤ r ∧ r < 1 ∧ jitterFactor γ r = y := by
  simp only [C10.jitter_eq]
  exact lerp_onto (C10.jitter_ends hγ) hy

/-- despite the name: strict monotonicity in the draw, like `bounce_up_affine` -/
theorem bounce_low_affine (xl xu xb r r' : α) (h : xl < xb) (hr : r < r') :
    repairLow .bounceBack xl xu xb r < repairLow .bounceBack xl xu xb r' :=
  lerp_lt_lerp h hr

theorem bounce_low_onto (xl xu xb y : α) (h : xl < xb) (hy : xl ≤ y ∧ y < xb) :
    ∃ r, 0 ≤ r ∧ r < 1 ∧ repairLow .bounceBack xl xu xb r = y :=
  lerp_onto h hy

theorem bounce_up_affine (xl xu xb r r' : α) (h : xb < xu) (hr : r < r') :
    repairUp .bounceBack xl xu xb r' < repairUp .bounceBack xl xu xb r :=
  lerpRev_lt_lerpRev h hr

theorem randinit_low_onto (xl xu xb y : α) (h : xl < xu) (hy : xl ≤ y ∧ y < xu) :
    ∃ r, 0 ≤ r ∧ r < 1 ∧ repairLow .randInit xl xu xb r = y :=
  lerp_onto h hy

theorem randinit_up_onto (xl xu xb y : α) (h : xl < xu) (hy : xl < y ∧ y ≤ xu) :
    ∃ r, 0 ≤ r ∧ r < 1 ∧ repairUp .randInit xl xu xb r = y :=
  lerpRev_onto h hy

/-- a pass of the re-selection loop leaves a row whose candidate is admissible alone. That the parent a
row ends with is therefore the *first* admissible candidate offered to it (the form in which
`uniform_parent_count` counts) is not formalised. -/
theorem redraw_keeps_admissible : ∀ (tp : List (Nat × List Nat)) (col e : List Nat) (i : Nat)
    (h1 : i < tp.length) (h2 : i < col.length) (h3 : i < (redraw tp col e).length),
    needRe tp[i].1 tp[i].2 col[i] = false → (redraw tp col e)[i] = col[i] := by
  intro tp col e
  -- row 0 changes only if it is flagged; the other rows are redrawn from what is left of the stream
  fun_induction redraw tp col e with
  | case1 t p tps x xs hx v vs ih =>
    rintro (_ | i) _ _ _ h
    · exact absurd hx (Bool.not_eq_true _ ▸ h)
    · exact ih i _ _ _ h
  | case2 t p tps x xs hx ih | case3 t p tps x xs e hx ih =>
    rintro (_ | i) _ _ _ h
    · rfl
    · exact ih i _ _ _ h
  | case4 tp col e _ => exact fun i _ _ h3 => absurd h3 (Nat.not_lt_zero i)

/-- exchangeability of admissible values: a relabelling `sw` of the individuals that leaves the
admissible set invariant (the exchange of two admissible values), applied to the candidate stream,
relabels the outcome -/
theorem first_admissible_exchange (adm : Nat → Bool) (sw : Nat → Nat) (hinv : ∀ x, adm (sw x) = adm x) :
    ∀ (s : List Nat), (s.map sw).find? adm = (s.find? adm).map sw := by
  intro s
  induction s with
  | nil => rfl
  | cons x s ih =>
    simp only [List.map_cons, List.find?_cons, hinv x]
    cases adm x
    · exact ih
    · rfl

end C19
end Pymoode
