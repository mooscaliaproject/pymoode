/-
C16  ConstrRankAndCrowding orders infeasible solutions in violation space.
The operator is the feasible part of `Survival.do` (`C03.feasPart`) followed by the fill, and the fill is the front loop
of C03 on the fronts of the violation matrix (`fillLoop_eq`): C03 / C04 apply.
-/
import PymoodeProofs.C04

namespace Pymoode
namespace C16
open C03 C04

theorem fillLoop_eq (room : Nat) : ∀ (fs : List (List Nat × List Nat)) (acc : List Nat),
    fillLoop room fs acc = frontLoop room fs acc := by
  intro fs
  induction fs with
  | nil => exact fun _ => rfl
  | cons p fs ih =>
    obtain ⟨f, s⟩ := p
    intro acc
    rw [fillLoop]
    split
    · next h => rw [frontLoop_cons_cut s fs h]; exact ih _
    · next h => rw [frontLoop_cons_fit s fs (Nat.le_of_not_lt h)]; exact ih _

/-- `fillLoop_eq`; neither hypothesis is used -/
theorem fillLoop_eq_frontLoop (room : Nat) : ∀ (fs : List (List Nat × List Nat)) (acc : List Nat),
    acc.length ≤ room → SortedOk fs → fillLoop room fs acc = frontLoop room fs acc :=
  fun fs acc _ _ => fillLoop_eq room fs acc

/-- on a problem without constraints the operator *is* RankAndCrowding -/
theorem unconstrained_eq_rnc (n nSurvive : Nat) (feas infeas : List Nat)
    (fs cfs : List (List Nat × List Nat)) :
    constrSurvival n nSurvive false feas infeas fs cfs = survivalDo n nSurvive false [] [] fs :=
  if_neg Bool.false_ne_true

/-- `ConstrRankAndCrowding._do` on a constrained problem: the feasible part of `Survival.do`, then the fill
(the guard `room > 0` changes nothing: with no room the fill is empty) -/
theorem constrSurvival_constr (n nSurvive : Nat) (feas infeas : List Nat) (fs cfs : List (List Nat × List Nat)) :
    constrSurvival n nSurvive true feas infeas fs cfs =
      feasPart n nSurvive feas fs ++
        (fillLoop (min nSurvive n - (feasPart n nSurvive feas fs).length) cfs []).map (fun j => infeas.getD j 0) := by
  rw [constrSurvival, if_pos rfl]
  show (if min nSurvive n - (feasPart n nSurvive feas fs).length > 0 then _ else _) = _
  by_cases h : min nSurvive n - (feasPart n nSurvive feas fs).length > 0
  · exact if_pos h
  · rw [if_neg h, Nat.eq_zero_of_not_pos h, fillLoop_eq, frontLoop_of_quota_le 0 cfs [] (Nat.le_refl 0)]
    exact (List.append_nil _).symm

/-- both results start with the same list `inner` (it is `feasPart`: `constrSurvival_constr` and `C03.survivalDo_constr`
are the forms to use); `x = 0` in `t1` is the default of `getD` for a fill position outside `infeas` -/
theorem feasible_part_eq_rnc (n nSurvive : Nat) (feas infeas : List Nat)
    (fs cfs : List (List Nat × List Nat)) :
    ∃ inner t1 t2,
      constrSurvival n nSurvive true feas infeas fs cfs = inner ++ t1 ∧
      survivalDo n nSurvive true feas infeas fs = inner ++ t2 ∧
      (∀ x ∈ t1, x ∈ infeas ∨ x = 0) ∧ (∀ x ∈ t2, x ∈ infeas) := by
  refine ⟨_, _, _, constrSurvival_constr n nSurvive feas infeas fs cfs, survivalDo_constr n nSurvive feas infeas fs,
    fun x hx => ?_, fun x hx => List.mem_of_mem_take hx⟩
  obtain ⟨j, _, rfl⟩ := List.mem_map.mp hx
  exact getD_of_forall (P := fun x => x ∈ infeas ∨ x = 0) (fun _ he => Or.inl he) (Or.inr rfl) j

set_option linter.unusedVariables false in -- `infeas`, `cfs`, `hn`, `hv` are not needed
/-- the feasible part (`feasPart`, written out) has `min feas.length (min nSurvive n)` members, hence `feas.length` as
soon as it leaves a place free: "feasible before infeasible" in terms of lengths -/
theorem feasible_before_infeasible (n nSurvive : Nat) (feas infeas : List Nat)
    (fs cfs : List (List Nat × List Nat)) (hs : SortedOk fs) (hn : (pool fs).Nodup)
    (hv : ∀ x ∈ pool fs, x < feas.length)
    (hcover : feas ≠ [] → min feas.length (min nSurvive n) ≤ (pool fs).length) :
    let inner := if feas.isEmpty then [] else
      (frontLoop (min feas.length (min nSurvive n)) fs []).map (fun j => feas.getD j 0)
    inner.length = min feas.length (min nSurvive n) ∧
    (inner.length < min nSurvive n → inner.length = feas.length) := by
  intro inner
  exact ⟨feasPart_length hs hcover, feasPart_length_of_room hs hcover⟩

/-- remaining places are filled front by front of the violation space: an infeasible individual
kept from violation front `kx` and a ranked one dropped from front `ky` satisfy `kx ≤ ky` -/
theorem fill_rank_respect (room : Nat) (cfs : List (List Nat × List Nat)) (hs : SortedOk cfs)
    (hn : (pool cfs).Nodup) (x : Nat) (hx : x ∈ fillLoop room cfs [])
    (kx : Nat) (hkx : kx < cfs.length) (hxk : x ∈ cfs[kx].1)
    (y ky : Nat) (hky : ky < cfs.length) (hyk : y ∈ cfs[ky].1) (hy : y ∉ fillLoop room cfs []) :
    kx ≤ ky := by
  rw [fillLoop_eq] at hx hy
  exact frontLoop_rank_respect room cfs [] hs hn (Nat.zero_le _) x hx List.not_mem_nil kx hkx hxk y ky hky hyk hy

/-- is `C04.infeasible_by_cv`, with `s` the violation front that does not fit, in ascending-CV order -/
theorem last_front_cut_by_cv {β : Type} [LinearOrder β] (cv : Nat → β) (s : List Nat) (k : Nat)
    (hsorted : s.Pairwise (fun a b => cv a ≤ cv b)) :
    ∀ a ∈ s.take k, ∀ b ∈ s.drop k, cv a ≤ cv b :=
  infeasible_by_cv cv s k hsorted

set_option linter.unusedVariables false in -- `hn`, `hv` are not needed
/-- `min n_survive n` members on constrained problems too (the length part of C03 for this class). `hccover`: the sort
of the violation matrix ranked at least the places left, as `hcover` for the objectives -/
theorem constr_length (n nSurvive : Nat) (feas infeas : List Nat) (fs cfs : List (List Nat × List Nat))
    (hsplit : SplitOk n feas infeas) (hs : SortedOk fs) (hn : (pool fs).Nodup)
    (hv : ∀ x ∈ pool fs, x < feas.length)
    (hcover : feas ≠ [] → min feas.length (min nSurvive n) ≤ (pool fs).length)
    (hcs : SortedOk cfs)
    (hccover : min (min nSurvive n - min feas.length (min nSurvive n)) infeas.length ≤ (pool cfs).length) :
    (constrSurvival n nSurvive true feas infeas fs cfs).length = min nSurvive n := by
  obtain ⟨h1, h2⟩ := feasPart_room nSurvive hsplit hs hcover
  -- the ranked infeasible individuals cover the places left
  rw [← feasPart_length hs hcover, Nat.min_eq_left h2] at hccover
  rw [constrSurvival_constr, List.length_append, List.length_map, fillLoop_eq,
    frontLoop_length _ cfs [] hcs (Nat.zero_le _), List.length_nil, Nat.zero_add, Nat.min_eq_left hccover,
    Nat.add_sub_cancel' h1]

example : constrSurvival 5 4 true [0, 2] [4, 1, 3] [([0, 1], [0, 1])] [([0], [0]), ([2, 1], [1, 2])] =
    [0, 2, 4, 1] := by decide

end C16
end Pymoode
