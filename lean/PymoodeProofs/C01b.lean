/-
C01, continued: **the bounds survive rounding.**  The theorems of `C01.lean` are about exact field arithmetic. Here every
arithmetic operation of bounce-back, midway and rand-init (to-bounds computes nothing) is followed by an abstract
rounding `fl` of which only this is assumed:

  * `mono`  : `x ≤ y → fl x ≤ fl y`                 (rounding is monotone — true of every IEEE rounding mode),
  * `fixl`, `fixu`, `fix0` : the bounds and `0` are representable: `fl xl = xl`, `fl xu = xu`, `fl 0 = 0`,
  * `rel`, `u0` : `0 ≤ x → fl x ≤ (1 + u)·x`, `0 ≤ u` (relative error at most `u`, no overflow; `u = 2⁻⁵³` for binary64),

and the formulas are transcribed operation by operation (`xl + r*(xb − xl)` is `fl (xl + fl (r * fl (xb − xl)))`, …).
Proved for **every** draw `0 ≤ r`: the repaired value never crosses the bound that was violated (`*_near`),
midway stays inside the box on both sides; and for every draw with `r·(1+u)² ≤ 1` — with `u = 2⁻⁵³` that is every value of
NumPy's grid `{i/2⁵³}` except the largest one, `1 − 2⁻⁵³` — bounce-back and rand-init do not cross the far bound either
(`*_far`). The one remaining grid point is covered by the argument in DESIGN.md §3.1 (the product `r·fl(d)` lies at least
half an ulp below `fl(d)`, hence rounds to a float `≤ d`) and by the check of every recorded offspring as real floats.
Underflow of `r * d` to a subnormal only rounds towards a representable value between `0` and `d` and is covered by `mono`.
-/
import PymoodeProofs.C01
import Mathlib.Tactic.Ring

set_option linter.unusedSectionVars false

namespace Pymoode
namespace C01

variable {α : Type} [Field α] [LinearOrder α] [IsStrictOrderedRing α]

structure Rounding (fl : α → α) (u xl xu : α) : Prop where
  mono : ∀ x y, x ≤ y → fl x ≤ fl y
  fix0 : fl 0 = 0
  fixl : fl xl = xl
  fixu : fl xu = xu
  u0 : 0 ≤ u
  rel : ∀ x, 0 ≤ x → fl x ≤ (1 + u) * x

variable {fl : α → α} {u xl xu : α}

namespace Rounding

theorem nonneg (h : Rounding fl u xl xu) {x : α} (hx : 0 ≤ x) : 0 ≤ fl x :=
  h.fix0.symm.trans_le (h.mono 0 x hx)

theorem le_fl (h : Rounding fl u xl xu) {x : α} (hx : xl ≤ x) : xl ≤ fl x :=
  h.fixl.symm.trans_le (h.mono xl x hx)

theorem fl_le (h : Rounding fl u xl xu) {x : α} (hx : x ≤ xu) : fl x ≤ xu :=
  (h.mono x xu hx).trans_eq h.fixu

theorem step_nonneg (h : Rounding fl u xl xu) {r d : α} (hr : 0 ≤ r) (hd : 0 ≤ d) : 0 ≤ fl (r * fl d) :=
  h.nonneg (mul_nonneg hr (h.nonneg hd))

end Rounding

/-- bounce-back, lower violation: `xl + r*(xb − xl)`, rounded after every operation -/
def bounceLowR (fl : α → α) (xl xb r : α) : α := fl (xl + fl (r * fl (xb - xl)))
/-- bounce-back, upper violation: `xu − r*(xu − xb)` -/
def bounceUpR (fl : α → α) (xu xb r : α) : α := fl (xu - fl (r * fl (xu - xb)))
/-- midway: `xl + (xb − xl)/2` and `xu − (xu − xb)/2` -/
def midLowR (fl : α → α) (xl xb : α) : α := fl (xl + fl (fl (xb - xl) / 2))
def midUpR (fl : α → α) (xu xb : α) : α := fl (xu - fl (fl (xu - xb) / 2))
/-- rand-init: `xl + r*(xu − xl)` and `xu − r*(xu − xl)` -/
def randLowR (fl : α → α) (xl xu r : α) : α := fl (xl + fl (r * fl (xu - xl)))
def randUpR (fl : α → α) (xl xu r : α) : α := fl (xu - fl (r * fl (xu - xl)))

/-- **the violated bound is never crossed, whatever the draw** (lower violation) -/
theorem bounceLow_near (h : Rounding fl u xl xu) (xb r : α) (hb : xl ≤ xb) (hr : 0 ≤ r) :
    xl ≤ bounceLowR fl xl xb r :=
  h.le_fl (le_add_of_nonneg_right (h.step_nonneg hr (sub_nonneg.2 hb)))

theorem bounceUp_near (h : Rounding fl u xl xu) (xb r : α) (hb : xb ≤ xu) (hr : 0 ≤ r) :
    bounceUpR fl xu xb r ≤ xu :=
  h.fl_le (sub_le_self xu (h.step_nonneg hr (sub_nonneg.2 hb)))

/- rand-init is bounce-back from the opposite bound: `randLowR fl xl xu r` is `bounceLowR fl xl xu r` and
`randUpR fl xl xu r` is `bounceUpR fl xu xl r`, by definition. -/

theorem randLow_near (h : Rounding fl u xl xu) (r : α) (hb : xl ≤ xu) (hr : 0 ≤ r) : xl ≤ randLowR fl xl xu r :=
  bounceLow_near h xu r hb hr

theorem randUp_near (h : Rounding fl u xl xu) (r : α) (hb : xl ≤ xu) (hr : 0 ≤ r) : randUpR fl xl xu r ≤ xu :=
  bounceUp_near h xl r hb hr

theorem two_roundings_le (h : Rounding fl u xl xu) (c d : α) (hc : 0 ≤ c) (hd : 0 ≤ d) (hcu : c * (1 + u) ^ 2 ≤ 1) :
    fl (c * fl d) ≤ d :=
  have hu : 0 ≤ 1 + u := add_nonneg zero_le_one h.u0
  calc fl (c * fl d) ≤ (1 + u) * (c * fl d) := h.rel _ (mul_nonneg hc (h.nonneg hd))
    _ ≤ (1 + u) * (c * ((1 + u) * d)) := mul_le_mul_of_nonneg_left (mul_le_mul_of_nonneg_left (h.rel d hd) hc) hu
    _ = (c * (1 + u) ^ 2) * d := by ring
    _ ≤ d := mul_le_of_le_one_left hd hcu

/-- **bounce-back does not cross the far bound** for every draw with `r·(1+u)² ≤ 1` (all of NumPy's grid but its largest
value when `u = 2⁻⁵³`): the rounded step is at most the distance to the base coordinate, which is inside the box -/
theorem bounceLow_far (h : Rounding fl u xl xu) (xb r : α) (hb : xl ≤ xb) (hbu : xb ≤ xu) (hr : 0 ≤ r)
    (hru : r * (1 + u) ^ 2 ≤ 1) : bounceLowR fl xl xb r ≤ xu :=
  h.fl_le (le_sub_iff_add_le'.1
    ((two_roundings_le h r (xb - xl) hr (sub_nonneg.2 hb) hru).trans (sub_le_sub_right hbu xl)))

theorem bounceUp_far (h : Rounding fl u xl xu) (xb r : α) (hb : xl ≤ xb) (hbu : xb ≤ xu) (hr : 0 ≤ r)
    (hru : r * (1 + u) ^ 2 ≤ 1) : xl ≤ bounceUpR fl xu xb r :=
  h.le_fl (le_sub_comm.1
    ((two_roundings_le h r (xu - xb) hr (sub_nonneg.2 hbu) hru).trans (sub_le_sub_left hb xu)))

theorem randLow_far (h : Rounding fl u xl xu) (r : α) (hb : xl ≤ xu) (hr : 0 ≤ r) (hru : r * (1 + u) ^ 2 ≤ 1) :
    randLowR fl xl xu r ≤ xu :=
  bounceLow_far h xu r hb le_rfl hr hru

theorem randUp_far (h : Rounding fl u xl xu) (r : α) (hb : xl ≤ xu) (hr : 0 ≤ r) (hru : r * (1 + u) ^ 2 ≤ 1) :
    xl ≤ randUpR fl xl xu r :=
  bounceUp_far h xl r le_rfl hb hr hru

theorem midLowR_eq (fl : α → α) (xl xb : α) : midLowR fl xl xb = bounceLowR fl xl xb 2⁻¹ := by
  unfold midLowR bounceLowR; rw [div_eq_inv_mul]

theorem midUpR_eq (fl : α → α) (xu xb : α) : midUpR fl xu xb = bounceUpR fl xu xb 2⁻¹ := by
  unfold midUpR bounceUpR; rw [div_eq_inv_mul]

theorem half_far (hu2 : (1 + u) ^ 2 ≤ 2) : 2⁻¹ * (1 + u) ^ 2 ≤ 1 :=
  inv_mul_le_one_of_le₀ hu2 zero_le_two

/-- **midway stays inside the box on both sides** (needs only `(1+u)² ≤ 2`) -/
theorem midLow_in_bounds (h : Rounding fl u xl xu) (xb : α) (hb : xl ≤ xb) (hbu : xb ≤ xu) (hu2 : (1 + u) ^ 2 ≤ 2) :
    xl ≤ midLowR fl xl xb ∧ midLowR fl xl xb ≤ xu := by
  have h2 : (0 : α) ≤ 2⁻¹ := inv_nonneg.2 zero_le_two
  rw [midLowR_eq]
  exact ⟨bounceLow_near h xb _ hb h2, bounceLow_far h xb _ hb hbu h2 (half_far hu2)⟩

theorem midUp_in_bounds (h : Rounding fl u xl xu) (xb : α) (hb : xl ≤ xb) (hbu : xb ≤ xu) (hu2 : (1 + u) ^ 2 ≤ 2) :
    xl ≤ midUpR fl xu xb ∧ midUpR fl xu xb ≤ xu := by
  have h2 : (0 : α) ≤ 2⁻¹ := inv_nonneg.2 zero_le_two
  rw [midUpR_eq]
  exact ⟨bounceUp_far h xb _ hb hbu h2 (half_far hu2), bounceUp_near h xb _ hbu h2⟩

/-- the rounded formulas are the model's formulas when nothing is rounded (tie to `PymoodeModel/Repair.lean`) -/
theorem rounded_eq_model (xl xu xb r : α) :
    bounceLowR id xl xb r = repairLow .bounceBack xl xu xb r ∧ bounceUpR id xu xb r = repairUp .bounceBack xl xu xb r ∧
    midLowR id xl xb = repairLow .midway xl xu xb r ∧ midUpR id xu xb = repairUp .midway xl xu xb r ∧
    randLowR id xl xu r = repairLow .randInit xl xu xb r ∧ randUpR id xl xu r = repairUp .randInit xl xu xb r :=
  ⟨rfl, rfl, rfl, rfl, rfl, rfl⟩

/-- non-vacuity: the identity is a rounding with `u = 0` (exact arithmetic), and `r = 3/4`, `u = 1/8` meet
`r·(1+u)² ≤ 1` -/
example : Rounding (id : ℚ → ℚ) 0 0 1 :=
  ⟨fun _ _ h => h, rfl, rfl, rfl, le_rfl, fun x _ => by rw [add_zero, one_mul]; exact le_rfl⟩

example : (3 / 4 : ℚ) * (1 + 1 / 8) ^ 2 ≤ 1 := by decide +kernel

end C01
end Pymoode
