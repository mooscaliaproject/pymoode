/-
C06  Multi-objective runs are elitist in every generation.
The statements quantify over an arbitrary current population, arbitrary offspring and arbitrary
oracle results satisfying their contracts, hence hold in every generation of every run.
-/
import PymoodeProofs.C04
import PymoodeProofs.C05

set_option linter.unusedSectionVars false

namespace Pymoode
namespace C06
open C03 C04

variable {α : Type} [Field α] [LinearOrder α] [IsStrictOrderedRing α]

/-- the new population consists only of candidates (the very same records: nothing is altered) -/
theorem pick_subset (cand : List (IndM α)) (ps : List Nat) : ∀ i ∈ pick cand ps, i ∈ cand := by
  intro i hi
  obtain ⟨p, _, hp⟩ := List.mem_filterMap.mp hi
  exact List.mem_of_getElem? hp

theorem pick_length (cand : List (IndM α)) (ps : List Nat) (h : ∀ p ∈ ps, p < cand.length) :
    (pick cand ps).length = ps.length :=
  List.filterMap_length_eq_length.mpr fun p hp => by rw [List.getElem?_eq_getElem (h p hp)]; rfl

/-- NSDE / (μ+λ): candidates are current members and offspring — so is the new population -/
theorem nsde_new_pop_subset (pop off : List (IndM α)) (popSize : Nat) (constr : Bool)
    (feas infeas : List Nat) (fs : List (List Nat × List Nat)) :
    ∀ i ∈ advanceRnc (mergeCandidates pop off) popSize constr feas infeas fs, i ∈ pop ∨ i ∈ off :=
  fun i hi => List.mem_append.mp (pick_subset _ _ i hi)

/-- GDE3: the new population consists of members and offspring that passed the one-to-one comparison -/
theorem gde3_new_pop_subset (pop off : List (IndM α)) (popSize : Nat) (constr : Bool)
    (feas infeas : List Nat) (fs : List (List Nat × List Nat)) :
    ∀ i ∈ advanceRnc (gde3Candidates pop off) popSize constr feas infeas fs, i ∈ gde3Candidates pop off :=
  fun i hi => pick_subset _ _ i hi

/-- positions of candidates that survive (unconstrained problem / all handed to `_do`) -/
def survivors (n popSize : Nat) (fs : List (List Nat × List Nat)) : List Nat :=
  survivalDo n popSize false [] [] fs

/-- **no feasible survivor is dominated by a discarded feasible candidate** (sub-population handed
to the front loop; `dom` = Pareto-dominance among those candidates) -/
theorem no_survivor_dominated_by_discarded {dom : Nat → Nat → Bool} {m nStop : Nat} (nS : Nat)
    (fs : List (List Nat × List Nat)) (h : IsFronts dom m nStop (fs.map Prod.fst)) (hs : SortedOk fs)
    (x j : Nat) (hx : x ∈ frontLoop nS fs []) (hj : j < m) (hjn : j ∉ frontLoop nS fs []) :
    dom j x = false :=
  Bool.eq_false_iff.mpr fun hd => hjn (no_discarded_dominates_survivor fs h hs x j hx hj hd)

/-- **whenever the feasible non-dominated candidates fit, all of them survive**; `hfit` says that the first front fits
(is `C04.first_front_kept` with `C04.mem_front_zero`) -/
theorem nondominated_survive_if_fit {dom : Nat → Nat → Bool} {m nStop : Nat} (nS : Nat)
    (fs : List (List Nat × List Nat)) (h : IsFronts dom m nStop (fs.map Prod.fst))
    (x : Nat) (hx : x < m) (hnd : ∀ j, j < m → dom j x = false)
    (hfit : ∀ f s rest, fs = (f, s) :: rest → f.length ≤ nS) (hne : fs ≠ []) :
    x ∈ frontLoop nS fs [] := by
  cases fs with
  | nil => exact absurd rfl hne
  | cons p rest =>
    exact first_front_kept nS p.1 p.2 rest (hfit p.1 p.2 rest rfl) x
      ((mem_front_zero h (Nat.succ_pos _) hx).mpr hnd)

/-- **no infeasible candidate survives while a feasible one is discarded**: is `C04.feasible_first` -/
theorem no_infeasible_over_feasible (n nSurvive : Nat) (feas infeas : List Nat)
    (fs : List (List Nat × List Nat)) (hsplit : SplitOk n feas infeas) (hs : SortedOk fs)
    (hn : (pool fs).Nodup) (hv : ∀ x ∈ pool fs, x < feas.length)
    (hcover : feas ≠ [] → min feas.length (min nSurvive n) ≤ (pool fs).length)
    (b : Nat) (hb : b ∈ infeas) (hbs : b ∈ survivalDo n nSurvive true feas infeas fs) :
    ∀ a ∈ feas, a ∈ survivalDo n nSurvive true feas infeas fs :=
  feasible_first n nSurvive feas infeas fs hsplit hs hn hv hcover b hb hbs

end C06
end Pymoode
