/-
Non-vacuity witnesses over ℚ, evaluated by the kernel. The front `[[0, 3], [1, 2], [2, 1], [3, 0]]` meets `Front2`, the
hypothesis of `pcd_two_objectives`, whose proof derives `AllMaxOnce` and `Budget` of `pcdKernelF_refines` from it; the
front `[[0, 8], [1, 4], [3, 1], [8, 0]]` meets `NoTies`, the hypothesis of `mnnKernelF_refines` (instantiated with mnn
and with 2nn); three points meet the hypotheses of `truncation_is_greedy_step`; a grid of 8 draws counted with `C19.grid_count_lt`.
Apart from the rest because they need the rational numbers as a floor ring, whose Mathlib module loads the tactic
libraries that no other proof module does (DESIGN.md §2).
-/
import PymoodeProofs.Greedy
import PymoodeProofs.C19b
import Mathlib.Data.Rat.Floor

namespace Pymoode
namespace C13

/-- the first objective increases along the list, the second decreases -/
theorem front2_example : Front2 ([[0, 3], [1, 2], [2, 1], [3, 0]] : List (List ℚ)) := by
  have h : ∀ a < 4, ∀ b < 4, a ≠ b →
      ¬ (xAt ([[0, 3], [1, 2], [2, 1], [3, 0]] : List (List ℚ)) a 0 ≤ xAt [[0, 3], [1, 2], [2, 1], [3, 0]] b 0 ∧
        xAt ([[0, 3], [1, 2], [2, 1], [3, 0]] : List (List ℚ)) a 1 ≤ xAt [[0, 3], [1, 2], [2, 1], [3, 0]] b 1) := by
    decide +kernel
  exact fun a b ha hb => h a ha b hb

example : Front2 ([[0, 3], [1, 2], [2, 1], [3, 0]] : List (List ℚ)) := front2_example

example (nRemove : Int) :
    pcdKernelF ([[0, 3], [1, 2], [2, 1], [3, 0]] : List (List ℚ)) 2 2 nRemove =
      (pcdFallback ([[0, 3], [1, 2], [2, 1], [3, 0]] : List (List ℚ)) 2 2 nRemove, true) :=
  pcd_two_objectives _ 2 nRemove (List.cons_ne_nil _ _) two_pos front2_example

theorem noTies_example :
    NoTies (normalizeCols ([[0, 8], [1, 4], [3, 1], [8, 0]] : List (List ℚ)) 2) 4 := by
  have h : ∀ i < 4, ∀ j < 4, ∀ j' < 4, j ≠ j' →
      dmAt (normalizeCols ([[0, 8], [1, 4], [3, 1], [8, 0]] : List (List ℚ)) 2) i j ≠
      dmAt (normalizeCols ([[0, 8], [1, 4], [3, 1], [8, 0]] : List (List ℚ)) 2) i j' := by
    decide +kernel
  intro i j j' hi hj hj' hne
  exact h i hi j hj j' hj' hne

example (nRemove : Int) (twonn : Bool) :
    mnnKernelF ([[0, 8], [1, 4], [3, 1], [8, 0]] : List (List ℚ)) 2 nRemove twonn =
      (mnnFallback ([[0, 8], [1, 4], [3, 1], [8, 0]] : List (List ℚ)) 2 nRemove twonn, true) :=
  mnnKernelF_refines _ 2 nRemove twonn (ite_self 2).le noTies_example

end C13

namespace C15

-- three points with values 1, 0 (pruned), 3; points 0 and 2 are alive, the live minimum is point 0; the cut that keeps
-- one member keeps point 2
example : ∀ i, i ∈ ([2, 0, 1] : List Nat).take (([0, 2] : List Nat).length - 1) ↔ (i ∈ ([0, 2] : List Nat) ∧ i ≠ 0) :=
  truncation_is_greedy_step (α := ℚ) (fun i => ([Ext.fin 1, Ext.fin 0, Ext.fin 3] : List (Ext ℚ)).getD i Ext.top) 3
    [2, 0, 1] [0, 2] 0 (by decide) (by unfold SortedDesc; decide) (by decide) (by decide) (by decide) (by decide)
    (by decide)

end C15

namespace C19

/-- with `N = 8` and `CR = 1/2` four draws are below `CR` -/
example : ((Finset.range 8).filter fun i => gridDraw (α := ℚ) 8 i < 1 / 2).card = 4 := by
  rw [grid_count_lt 8 (by decide) (1 / 2 : ℚ) (by decide +kernel)]
  decide +kernel

end C19
end Pymoode
