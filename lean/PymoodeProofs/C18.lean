/-
C18  A run can be checkpointed after any generation and resumed.   — PARTIAL —

FULL STATEMENT: an algorithm object serialised or deep-copied after any generation and resumed with the saved generator
state continues exactly as the uninterrupted run; recording the history does not change the run.
PROVED (over the run model): if `restore (snapshot s) = s`, resuming with the remaining draws equals the uninterrupted
run, for every interruption point; the state reached with a history is that of the plain run.
NOT MODELLED: pickle / dill / deepcopy and the object graph. The hypothesis is checked on the real objects at every
generation of every monitored run (copy against original, later populations against the uninterrupted run).
-/
import PymoodeProofs.C17

namespace Pymoode
namespace C18

variable {σ δ κ : Type}

/-- **resume = uninterrupted**, for every split point of the draw stream -/
theorem resume_eq (step : σ → δ → σ) (snapshot : σ → κ) (restore : κ → σ)
    (hrt : ∀ s, restore (snapshot s) = s) (s : σ) (d₁ d₂ : List δ) :
    runSteps step (restore (snapshot (runSteps step s d₁))) d₂ = runSteps step s (d₁ ++ d₂) := by
  rw [hrt, C17.run_split]

theorem resume_any_point (step : σ → δ → σ) (snapshot : σ → κ) (restore : κ → σ)
    (hrt : ∀ s, restore (snapshot s) = s) (s : σ) (ds : List δ) (k : Nat) :
    runSteps step (restore (snapshot (runSteps step s (ds.take k)))) (ds.drop k) = runSteps step s ds := by
  rw [resume_eq step snapshot restore hrt, List.take_append_drop]

/-- checkpointing repeatedly (e.g. a history of deep copies) still resumes correctly -/
theorem resume_twice (step : σ → δ → σ) (snapshot : σ → κ) (restore : κ → σ)
    (hrt : ∀ s, restore (snapshot s) = s) (s : σ) (d₁ d₂ d₃ : List δ) :
    runSteps step (restore (snapshot (runSteps step (restore (snapshot (runSteps step s d₁))) d₂))) d₃ =
      runSteps step s (d₁ ++ d₂ ++ d₃) := by
  rw [hrt, hrt, C17.run_split, C17.run_split]

theorem runWithHistory_fold (step : σ → δ → σ) (s : σ) (ds : List δ) (hist : List σ) :
    ds.foldl (fun (acc : σ × List σ) d => let s' := step acc.1 d; (s', acc.2 ++ [s'])) (s, hist) =
      (runSteps step s ds, hist ++ (ds.scanl step s).tail) := by
  induction ds generalizing s hist with
  | nil => rw [List.scanl_nil, List.tail_cons, List.append_nil]; rfl
  | cons d ds ih =>
    rw [List.foldl_cons, ih, List.scanl_cons, List.tail_cons, List.append_assoc]
    -- a scan starts with its initial state
    cases ds with
    | nil => rfl
    | cons _ _ => rw [List.scanl_cons]; rfl

/-- **recording the history is neutral**: the state reached is that of the plain run (the history itself is
described by `runWithHistory_fold`: the intermediate states, in order) -/
theorem history_neutral (step : σ → δ → σ) (s : σ) (ds : List δ) :
    (runWithHistory step s ds).1 = runSteps step s ds := by
  rw [runWithHistory, runWithHistory_fold]

theorem history_length (step : σ → δ → σ) (s : σ) (ds : List δ) :
    (runWithHistory step s ds).2.length = ds.length := by
  rw [runWithHistory, runWithHistory_fold, List.nil_append, List.length_tail, List.length_scanl, Nat.add_sub_cancel]

example : runSteps (fun (s : Nat) (d : Nat) => s + d) 0 [1, 2, 3] = 6 := by decide

end C18
end Pymoode
