/-
C04  Truncation respects dominance ranks and prefers feasible solutions.
The executable contract of the non-dominated-sorting oracle that the driver evaluates on every recorded sorting
result (`isFrontsb`) is the contract the theorems of C04, C06 and C08 assume (`IsFronts`); what it says front by front,
and that it determines the fronts, comes first. Of C03's hypotheses on the ranked positions only `Nodup` is derived
from it (`isFronts_flatten_nodup`); validity and `hcover` (`IsFronts.valid`, `.stop`) are assumed there as they stand.
-/
import PymoodeProofs.C03

namespace Pymoode
namespace C04
open C03

theorem frontOKb_iff (dom : Nat → Nat → Bool) (m : Nat) (fronts : List (List Nat)) (k : Nat) :
    frontOKb dom m fronts k = true ↔ FrontOK dom m fronts k := by
  simp only [frontOKb, FrontOK, List.all_eq_true, List.mem_range, beq_iff_eq]
  refine forall₂_congr fun i _ => ?_
  rw [Bool.eq_iff_iff]
  simp only [decide_eq_true_eq, Bool.and_eq_true, Bool.not_eq_true', Bool.or_eq_true, List.contains_eq_mem,
    decide_eq_false_iff_not, List.all_eq_true, List.mem_range, imp_iff_not_or (a := dom _ _ = true), Bool.not_eq_true]

theorem isFrontsb_iff (dom : Nat → Nat → Bool) (m nStop : Nat) (fronts : List (List Nat)) :
    isFrontsb dom m nStop fronts = true ↔ IsFronts dom m nStop fronts := by
  unfold isFrontsb
  simp only [Bool.and_eq_true, List.all_eq_true, decide_eq_true_eq, Bool.or_eq_true, beq_iff_eq, List.mem_range,
    frontOKb_iff, Bool.not_eq_eq_eq_not, Bool.not_true, List.isEmpty_eq_false_iff]
  constructor
  · rintro ⟨⟨⟨⟨h1, h2⟩, h3⟩, h4⟩, h5⟩
    exact ⟨h1, h2, h3, h4, h5⟩
  · intro h
    exact ⟨⟨⟨⟨h.valid, h.nodup⟩, h.nonempty⟩, h.peel⟩, h.stop⟩

/-- non-vacuity: a three-point population in which point 0 dominates point 1 -/
example : IsFronts (fun a b => a == 0 && b == 1) 3 3 [[0, 2], [1]] :=
  (isFrontsb_iff _ 3 3 _).mp (by decide)

theorem mem_earlier_getElem {fronts : List (List Nat)} {k : Nat} {x : Nat} :
    x ∈ earlier fronts k ↔ ∃ k', k' < k ∧ ∃ (h' : k' < fronts.length), x ∈ fronts[k'] := by
  simp only [earlier, List.mem_flatten, List.mem_take_iff_getElem, lt_min_iff]
  constructor
  · rintro ⟨_, ⟨i, hi, rfl⟩, hx⟩
    exact ⟨i, hi.1, hi.2, hx⟩
  · rintro ⟨i, h1, h2, hx⟩
    exact ⟨_, ⟨i, ⟨h1, h2⟩, rfl⟩, hx⟩

theorem mem_earlier_succ {fronts : List (List Nat)} {k : Nat} (hk : k < fronts.length) {y : Nat} :
    y ∈ earlier fronts (k + 1) ↔ y ∈ earlier fronts k ∨ y ∈ fronts[k] := by
  simp only [earlier, List.take_succ_eq_append_getElem hk, List.flatten_append, List.flatten_cons,
    List.flatten_nil, List.append_nil, List.mem_append]

/-- the peeling condition of the contract for a front given by its index -/
theorem mem_front_iff {dom : Nat → Nat → Bool} {m nStop : Nat} {fronts : List (List Nat)}
    (h : IsFronts dom m nStop fronts) {k : Nat} (hk : k < fronts.length) {x : Nat} (hx : x < m) :
    x ∈ fronts[k] ↔ x ∉ earlier fronts k ∧ ∀ j, j < m → dom j x = true → j ∈ earlier fronts k := by
  rw [← List.getD_eq_getElem fronts [] hk]
  exact h.peel k hk x hx

theorem peel_getElem {dom : Nat → Nat → Bool} {m nStop : Nat} {fronts : List (List Nat)}
    (h : IsFronts dom m nStop fronts) {k : Nat} (hk : k < fronts.length) {i : Nat} (hi : i ∈ fronts[k]) :
    i ∉ earlier fronts k ∧ ∀ j, j < m → dom j i = true → j ∈ earlier fronts k :=
  (mem_front_iff h hk (h.valid _ (List.getElem_mem hk) i hi)).mp hi

/-- the first front is the non-dominated set -/
theorem mem_front_zero {dom : Nat → Nat → Bool} {m nStop : Nat} {fronts : List (List Nat)}
    (h : IsFronts dom m nStop fronts) (h0 : 0 < fronts.length) {x : Nat} (hx : x < m) :
    x ∈ fronts[0] ↔ ∀ j, j < m → dom j x = false := by
  -- nothing is earlier than the first front
  simp only [mem_front_iff h h0 hx, earlier, List.take_zero, List.flatten_nil, List.not_mem_nil,
    not_false_eq_true, imp_false, Bool.not_eq_true, true_and]

theorem dom_rank_lt {dom : Nat → Nat → Bool} {m nStop : Nat} {fronts : List (List Nat)}
    (h : IsFronts dom m nStop fronts) (k : Nat) (hk : k < fronts.length) (i j : Nat)
    (hi : i ∈ fronts[k]) (hj : j < m) (hd : dom j i = true) :
    ∃ k', k' < k ∧ ∃ (h' : k' < fronts.length), j ∈ fronts[k'] :=
  mem_earlier_getElem.mp ((peel_getElem h hk hi).2 j hj hd)

/-- fronts are pairwise disjoint, so the front index of a point is well defined -/
theorem front_index_unique {dom : Nat → Nat → Bool} {m nStop : Nat} {fronts : List (List Nat)}
    (h : IsFronts dom m nStop fronts) (a b : Nat) (ha : a < fronts.length) (hb : b < fronts.length)
    (x : Nat) (hxa : x ∈ fronts[a]) (hxb : x ∈ fronts[b]) : a = b := by
  -- a member of a front is in no earlier front
  have key : ∀ a b (ha : a < fronts.length) (hb : b < fronts.length), x ∈ fronts[a] → x ∈ fronts[b] → ¬ a < b :=
    fun a b ha hb hxa hxb hlt => (peel_getElem h hb hxb).1 (mem_earlier_getElem.mpr ⟨a, hlt, ha, hxa⟩)
  exact Nat.le_antisymm (Nat.not_lt.mp (key b a hb ha hxb hxa)) (Nat.not_lt.mp (key a b ha hb hxa hxb))

/-- all ranked positions are distinct (what C03 needs from the NDS oracle) -/
theorem isFronts_flatten_nodup {dom : Nat → Nat → Bool} {m nStop : Nat} {fronts : List (List Nat)}
    (h : IsFronts dom m nStop fronts) : fronts.flatten.Nodup := by
  refine List.nodup_flatten.mpr ⟨h.nodup, List.pairwise_iff_getElem.mpr fun a b ha hb hab x hxa hxb => ?_⟩
  exact Nat.ne_of_lt hab (front_index_unique h a b ha hb x hxa hxb)

/-- the `rank` attribute written for a member of front `k` is `k` -/
theorem rankOf_eq {dom : Nat → Nat → Bool} {m nStop : Nat} {fronts : List (List Nat)}
    (h : IsFronts dom m nStop fronts) (k : Nat) (hk : k < fronts.length) (x : Nat) (hx : x ∈ fronts[k]) :
    rankOf fronts x = some k := by
  rw [rankOf, List.findIdx?_eq_some_iff_getElem]
  refine ⟨hk, List.contains_iff_mem.mpr hx, fun j hj hc => ?_⟩
  exact Nat.ne_of_lt hj (front_index_unique h j k (hj.trans hk) hk x (List.contains_iff_mem.mp hc) hx)

section Unique
variable {dom : Nat → Nat → Bool} {m n1 n2 : Nat} {f1 f2 : List (List Nat)}

/-- a front is determined by the fronts before it -/
theorem mem_front_congr (h1 : IsFronts dom m n1 f1) (h2 : IsFronts dom m n2 f2) {k : Nat} (hk1 : k < f1.length)
    (hk2 : k < f2.length) (e : ∀ y, y < m → (y ∈ earlier f1 k ↔ y ∈ earlier f2 k)) {x : Nat} (hx : x < m) :
    x ∈ f1[k] ↔ x ∈ f2[k] := by
  rw [mem_front_iff h1 hk1 hx, mem_front_iff h2 hk2 hx, e x hx]
  exact and_congr_right fun _ => forall₃_congr fun j hj _ => e j hj

theorem earlier_unique (h1 : IsFronts dom m n1 f1) (h2 : IsFronts dom m n2 f2) {k : Nat} (hk1 : k ≤ f1.length)
    (hk2 : k ≤ f2.length) : ∀ y, y < m → (y ∈ earlier f1 k ↔ y ∈ earlier f2 k) := by
  induction k with
  | zero => exact fun _ _ => Iff.rfl
  | succ k ih =>
    intro y hy
    rw [mem_earlier_succ hk1, mem_earlier_succ hk2, ih (Nat.le_of_lt hk1) (Nat.le_of_lt hk2) y hy,
      mem_front_congr h1 h2 hk1 hk2 (ih (Nat.le_of_lt hk1) (Nat.le_of_lt hk2)) hy]

end Unique

/-- **the true front index is unique**: two NDS results satisfying the contract on the same
dominance relation agree front by front (as sets), so "the rank attribute equals the true front
index" is a well-defined statement. -/
theorem isFronts_unique {dom : Nat → Nat → Bool} {m n1 n2 : Nat} {f1 f2 : List (List Nat)}
    (h1 : IsFronts dom m n1 f1) (h2 : IsFronts dom m n2 f2) :
    ∀ k, k < f1.length → k < f2.length → ∀ x, x < m → (x ∈ f1.getD k [] ↔ x ∈ f2.getD k []) := by
  intro k hk1 hk2 x hx
  rw [List.getD_eq_getElem _ _ hk1, List.getD_eq_getElem _ _ hk2]
  exact mem_front_congr h1 h2 hk1 hk2 (earlier_unique h1 h2 hk1.le hk2.le) hx

/-- `C03.frontLoop_of_quota_le` at `acc.length = nS`; `SortedOk` is not used -/
theorem frontLoop_full (nS : Nat) : ∀ (fs : List (List Nat × List Nat)) (acc : List Nat),
    SortedOk fs → acc.length = nS → frontLoop nS fs acc = acc :=
  fun fs acc _ h => frontLoop_of_quota_le nS fs acc h.ge

/-- **ranks are respected**: a survivor taken from front `kx` and a ranked non-survivor of front
`ky` satisfy `kx ≤ ky` — fronts are consumed in order and only the last one used is cut. -/
theorem frontLoop_rank_respect (nS : Nat) : ∀ (fs : List (List Nat × List Nat)) (acc : List Nat),
    SortedOk fs → (acc ++ pool fs).Nodup → acc.length ≤ nS →
    ∀ x, x ∈ frontLoop nS fs acc → x ∉ acc →
    ∀ kx (hkx : kx < fs.length), x ∈ fs[kx].1 →
    ∀ y ky (hky : ky < fs.length), y ∈ fs[ky].1 → y ∉ frontLoop nS fs acc → kx ≤ ky := by
  intro fs
  induction fs with
  | nil => intro _ _ _ _ _ _ _ _ hkx; cases hkx
  | cons p fs ih =>
    obtain ⟨f, s⟩ := p
    intro acc hs hn hle x hx hxa kx hkx hxk y ky hky hyk hy
    cases kx with
    | zero => exact Nat.zero_le ky
    | succ kx =>
      rw [pool_cons, ← List.append_assoc] at hn
      -- `x` sits in a later front, so (positions being distinct) it is new after this round as well
      have hxaf : x ∉ acc ++ f := fun hc =>
        (List.nodup_append.mp hn).2.2 x hc x (mem_pool (Nat.lt_of_succ_lt_succ hkx) hxk) rfl
      rcases Nat.lt_or_ge nS (acc.length + f.length) with hcut | hfit
      · -- had this front been cut, the loop would have ended with it and `x` would not have been taken
        rw [frontLoop_cons_cut_eq fs hs.head.length_eq hcut] at hx
        rcases List.mem_append.mp hx with h | h
        · exact absurd h hxa
        · exact absurd (List.mem_append_right acc (hs.head.subset (List.mem_of_mem_take h))) hxaf
      · -- so it was taken whole: `y` is not in it
        rw [frontLoop_cons_fit s fs hfit] at hx hy
        cases ky with
        | zero => exact absurd ((frontLoop_prefix nS fs (acc ++ f)).subset (List.mem_append_right acc hyk)) hy
        | succ ky =>
          exact Nat.succ_le_succ (ih (acc ++ f) hs.tail hn
            (by rwa [List.length_append]) x hx hxaf kx (Nat.lt_of_succ_lt_succ hkx) hxk
            y ky (Nat.lt_of_succ_lt_succ hky) hyk hy)

theorem first_front_kept (nS : Nat) (f s : List Nat) (fs : List (List Nat × List Nat))
    (hfit : f.length ≤ nS) : ∀ x ∈ f, x ∈ frontLoop nS ((f, s) :: fs) [] := by
  intro x hx
  rw [frontLoop_cons_fit s fs (by rwa [List.length_nil, Nat.zero_add])]
  exact (frontLoop_prefix nS fs ([] ++ f)).subset (List.mem_append_right [] hx)

/-- **no discarded (ranked or not) individual dominates a survivor**: a dominator of a survivor
sits in a strictly earlier front, and earlier fronts are kept whole. -/
theorem no_discarded_dominates_survivor {dom : Nat → Nat → Bool} {m nStop nS : Nat}
    (fs : List (List Nat × List Nat)) (h : IsFronts dom m nStop (fs.map Prod.fst))
    (hs : SortedOk fs) (x j : Nat) (hx : x ∈ frontLoop nS fs []) (hj : j < m)
    (hd : dom j x = true) : j ∈ frontLoop nS fs [] := by
  by_contra hjn
  obtain ⟨l, hl, hxl⟩ := List.mem_flatten.mp (frontLoop_subset nS fs hs x hx)
  obtain ⟨kx, hkx, rfl⟩ := List.mem_iff_getElem.mp hl
  obtain ⟨k', hlt, hk', hjk⟩ := dom_rank_lt h kx hkx x j hxl hj hd
  rw [List.length_map] at hkx hk'
  rw [List.getElem_map] at hxl hjk
  exact Nat.not_le.mpr hlt (frontLoop_rank_respect nS fs [] hs (isFronts_flatten_nodup h) (Nat.zero_le _) x hx
    List.not_mem_nil kx hkx hxl j k' hk' hjk hjn)

/-- an infeasible individual survives only if every feasible one does -/
theorem feasible_first (n nSurvive : Nat) (feas infeas : List Nat) (fs : List (List Nat × List Nat))
    (hsplit : SplitOk n feas infeas) (hs : SortedOk fs) (hn : (pool fs).Nodup)
    (hv : ∀ x ∈ pool fs, x < feas.length)
    (hcover : feas ≠ [] → min feas.length (min nSurvive n) ≤ (pool fs).length)
    (b : Nat) (hb : b ∈ infeas) (hbs : b ∈ survivalDo n nSurvive true feas infeas fs) :
    ∀ a ∈ feas, a ∈ survivalDo n nSurvive true feas infeas fs := by
  intro a ha
  obtain ⟨hfn, _, hdisj⟩ := List.nodup_append.mp (hsplit.nodup_iff.mpr List.nodup_range)
  rw [survivalDo_constr] at hbs ⊢
  -- `b` comes from the infeasible tail, so room was left after the feasible part
  have hb' := (List.mem_append.mp hbs).resolve_left fun h => hdisj b (feasPart_subset hs hv b h) b hb rfl
  have hroom : (feasPart n nSurvive feas fs).length < min nSurvive n := by
    by_contra hc
    rw [Nat.sub_eq_zero_of_le (Nat.le_of_not_lt hc), List.take_zero] at hb'
    exact List.not_mem_nil hb'
  -- hence the feasible part has `feas.length` distinct members of `feas`: all of them
  exact List.mem_append_left _ (((List.subperm_of_subset (feasPart_nodup hs hn hv hfn) (feasPart_subset hs hv)
    ).perm_of_length_le (feasPart_length_of_room hs hcover hroom).ge).symm.subset ha)

/-- `List.Pairwise.rel_of_mem_take_of_mem_drop`, read for the tail `infeas[:k]` of the survival: with `infeas` ascending
in total violation (contract of `split_by_feasibility`) a kept one never has a larger CV than a dropped one -/
theorem infeasible_by_cv {β : Type} [LinearOrder β] (cv : Nat → β) (infeas : List Nat) (k : Nat)
    (hsorted : infeas.Pairwise (fun a b => cv a ≤ cv b)) :
    ∀ a ∈ infeas.take k, ∀ b ∈ infeas.drop k, cv a ≤ cv b :=
  fun _ ha _ hb => hsorted.rel_of_mem_take_of_mem_drop ha hb

end C04
end Pymoode
