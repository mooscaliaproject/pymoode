/-
C19, continued: from events to **laws, by counting**.  `numpy.random.random()` returns `i / N` with `i` uniform on
`{0, …, N−1}` (`N = 2⁵³`): a draw is a point of a finite grid (`gridDraw`) and "probability" is a ratio of cardinalities.
Under that model of the primitive — and nothing else — the named distributions are theorems:

* binomial crossover: exactly `K = ⌈CR·N⌉` of the `N` grid draws are `< CR`, so a coordinate is taken with probability
  `K / N ∈ [CR, CR + 1/N)` (`grid_prob_close`), and the draw vectors that produce a given mask number the *product* over
  the coordinates of `K` (taken) or `N − K` (not taken): the coordinates are independent (`bin_mask_count`);
* exponential crossover: the block length is `≥ k` on `K^k · N^(n−k)` draw vectors, `P(L ≥ k) = p^k`: the geometric law
  truncated at `n_var` (`exp_len_count`);
* dither, jitter, bounce-back and rand-init: the affine map of `[0,1)` onto its segment sends into a sub-interval a
  number of grid draws proportional to its length up to one grid point: uniform (`lerp_count`, `lerpRev_count` and
  their six instances);
* the first admissible candidate of a stream is uniform over the admissible individuals (`uniform_parent_count`; that
  this candidate is the parent the re-selection loop ends with is argued in C19.lean, not proved).

What stays trusted: that NumPy's generator is uniform on the grid and independent across calls.
-/
import PymoodeProofs.C19
import Mathlib.Algebra.Order.Floor.Semiring
import Mathlib.Data.Fintype.BigOperators
import Mathlib.Algebra.BigOperators.Fin

set_option linter.unusedSectionVars false
-- not used by their proofs: `hxy` of `grid_count_Ico`; `ha`, `hab` of `dither_count`, `jitter_count`,
-- `bounce_low_count`, `randinit_low_count`; `hab`, `hb` of `bounce_up_count`, `randinit_up_count`
set_option linter.unusedVariables false

namespace Pymoode
namespace C19

/-- draw vectors constrained coordinate by coordinate form a box, of size the product of its sides: independence -/
theorem card_box {n N : Nat} (S : Fin n → Finset (Fin N)) {P : (Fin n → Fin N) → Prop} [DecidablePred P]
    (h : ∀ v, P v ↔ ∀ j, v j ∈ S j) : (Finset.univ.filter P).card = ∏ j, (S j).card := by
  rw [← Fintype.card_piFinset]
  congr 1
  ext v
  rw [Finset.mem_filter, Fintype.mem_piFinset, and_iff_right (Finset.mem_univ v), h]

theorem prod_ite_lt {k n : Nat} (hk : k ≤ n) (a b : Nat) :
    (∏ j : Fin n, if (j : Nat) < k then a else b) = a ^ k * b ^ (n - k) := by
  obtain ⟨m, rfl⟩ := Nat.exists_eq_add_of_le hk
  rw [Fin.prod_univ_eq_prod_range (fun j => if j < k then a else b), Finset.prod_range_add,
    Finset.prod_congr rfl fun j hj => if_pos (Finset.mem_range.1 hj),
    Finset.prod_congr rfl fun j _ => if_neg (Nat.not_lt.2 (Nat.le_add_right k j)),
    Finset.prod_const, Finset.prod_const, Finset.card_range, Finset.card_range, Nat.add_sub_cancel_left]

section Grid

variable {α : Type} [Field α] [LinearOrder α] [IsStrictOrderedRing α] [FloorRing α]

def gridDraw (N i : Nat) : α := (i : α) / (N : α)

theorem gridDraw_lt_iff (N : Nat) (hN : 0 < N) (c : α) (i : Nat) : gridDraw N i < c ↔ i < ⌈c * N⌉₊ := by
  have hNpos : (0 : α) < N := Nat.cast_pos.2 hN
  rw [gridDraw, div_lt_iff₀ hNpos, Nat.lt_ceil]

theorem gridDraw_range (N : Nat) (hN : 0 < N) (i : Nat) (hi : i < N) : (0 : α) ≤ gridDraw N i ∧ gridDraw (α := α) N i < 1 :=
  ⟨div_nonneg (Nat.cast_nonneg i) (Nat.cast_nonneg N), (div_lt_one (Nat.cast_pos.2 hN)).2 (Nat.cast_lt.2 hi)⟩

theorem ceil_mul_le (N : Nat) {c : α} (hc1 : c ≤ 1) : ⌈c * N⌉₊ ≤ N :=
  Nat.ceil_le.2 (mul_le_of_le_one_left (Nat.cast_nonneg N) hc1)

theorem grid_count_lt (N : Nat) (hN : 0 < N) (c : α) (hc1 : c ≤ 1) :
    ((Finset.range N).filter fun i => gridDraw N i < c).card = ⌈c * N⌉₊ := by
  have : (Finset.range N).filter (fun i => gridDraw N i < c) = Finset.range ⌈c * N⌉₊ := by
    ext i
    rw [Finset.mem_filter, Finset.mem_range, Finset.mem_range, gridDraw_lt_iff N hN]
    exact ⟨fun h => h.2, fun h => ⟨h.trans_le (ceil_mul_le N hc1), h⟩⟩
  rw [this, Finset.card_range]

theorem grid_prob_close (N : Nat) (hN : 0 < N) (c : α) (hc0 : 0 ≤ c) :
    c ≤ (⌈c * N⌉₊ : α) / N ∧ (⌈c * N⌉₊ : α) / N < c + 1 / N := by
  have hNpos : (0 : α) < N := Nat.cast_pos.2 hN
  constructor
  · rw [le_div_iff₀ hNpos]
    exact Nat.le_ceil _
  · rw [div_lt_iff₀ hNpos, add_mul, one_div, inv_mul_cancel₀ hNpos.ne']
    exact Nat.ceil_lt_add_one (mul_nonneg hc0 hNpos.le)

theorem filter_gridDraw_Ico (N : Nat) (hN : 0 < N) (x y : α) (hy1 : y ≤ 1) :
    ((Finset.range N).filter fun i => x ≤ gridDraw N i ∧ gridDraw N i < y) = Finset.Ico ⌈x * N⌉₊ ⌈y * N⌉₊ := by
  ext i
  rw [Finset.mem_filter, Finset.mem_range, Finset.mem_Ico, gridDraw_lt_iff N hN, ← not_lt, gridDraw_lt_iff N hN, not_lt]
  exact ⟨fun h => h.2, fun h => ⟨h.2.trans_le (ceil_mul_le N hy1), h⟩⟩

theorem grid_count_Ico (N : Nat) (hN : 0 < N) (x y : α) (hxy : x ≤ y) (hy1 : y ≤ 1) :
    ((Finset.range N).filter fun i => x ≤ gridDraw N i ∧ gridDraw N i < y).card = ⌈y * N⌉₊ - ⌈x * N⌉₊ := by
  rw [filter_gridDraw_Ico N hN x y hy1, Nat.card_Ico]

def below (N : Nat) (c : α) : Finset (Fin N) := Finset.univ.filter fun i => gridDraw N (i : Nat) < c

theorem mem_below {N : Nat} {c : α} {i : Fin N} : i ∈ below N c ↔ gridDraw N (i : Nat) < c := by
  rw [below, Finset.mem_filter, and_iff_right (Finset.mem_univ i)]

theorem card_below (N : Nat) (hN : 0 < N) (c : α) (hc1 : c ≤ 1) : (below N c).card = ⌈c * N⌉₊ := by
  rw [← grid_count_lt N hN c hc1, below, Finset.card_filter, Finset.card_filter]
  exact Fin.sum_univ_eq_sum_range (fun i => if gridDraw N i < c then 1 else 0) N

theorem bin_mask_count (N n : Nat) (hN : 0 < N) (cr : α) (hc1 : cr ≤ 1) (m : Fin n → Bool) :
    (Finset.univ.filter fun v : Fin n → Fin N => ∀ j, decide (gridDraw N (v j : Nat) < cr) = m j).card =
      ∏ j : Fin n, if m j then ⌈cr * N⌉₊ else N - ⌈cr * N⌉₊ := by
  -- coordinate `j` ranges over `below` or over its complement
  refine (card_box (fun j => if m j then below N cr else (below N cr)ᶜ) fun v => forall_congr' fun j => ?_).trans ?_
  · cases m j <;> simp [mem_below]
  · simp only [apply_ite Finset.card, Finset.card_compl, card_below N hN cr hc1, Fintype.card_fin]

/-- the event of `bin_mask_count` is the mask that the model's `binRow` computes from the draws -/
theorem binRow_ofFn (N n : Nat) (cr : α) (v : Fin n → Fin N) :
    binRow cr (List.ofFn fun j => gridDraw N (v j : Nat)) = List.ofFn fun j => decide (gridDraw N (v j : Nat) < cr) := by
  unfold binRow
  rw [List.map_ofFn]
  rfl

theorem exp_len_count (N n k : Nat) (hN : 0 < N) (cr : α) (hc1 : cr ≤ 1) (hk : k ≤ n) :
    (Finset.univ.filter fun v : Fin n → Fin N => k ≤ expLen cr n (List.ofFn fun j => gridDraw N (v j : Nat))).card =
      ⌈cr * N⌉₊ ^ k * N ^ (n - k) := by
  -- the first `k` coordinates range over `below`, the others are free
  refine (card_box (fun j : Fin n => if (j : Nat) < k then below N cr else Finset.univ) fun v => ?_).trans ?_
  · rw [exp_len_event cr n _ k hk (by rw [List.length_ofFn]; exact hk), Fin.forall_iff]
    refine forall_congr' fun i => ?_
    by_cases hi : i < k <;> simp [hi, mem_below]
  · simp only [apply_ite Finset.card, card_below N hN cr hc1, Finset.card_univ, Fintype.card_fin]
    exact prod_ite_lt hk _ _

theorem lerp_count (N : Nat) (hN : 0 < N) (p q a b : α) (h : p < q) (hb : b ≤ q) :
    ((Finset.range N).filter fun i => a ≤ p + gridDraw N i * (q - p) ∧ p + gridDraw N i * (q - p) < b).card =
      ⌈(b - p) / (q - p) * N⌉₊ - ⌈(a - p) / (q - p) * N⌉₊ := by
  simp only [le_lerp_iff h, lerp_lt_iff h]
  rw [filter_gridDraw_Ico N hN _ _ ((div_le_one (sub_pos.2 h)).2 (sub_le_sub_right hb p)), Nat.card_Ico]

theorem lerpRev_count (N : Nat) (hN : 0 < N) (p q a b : α) (h : p < q) (ha : p ≤ a) :
    ((Finset.range N).filter fun i => a < q - gridDraw N i * (q - p) ∧ q - gridDraw N i * (q - p) ≤ b).card =
      ⌈(q - a) / (q - p) * N⌉₊ - ⌈(q - b) / (q - p) * N⌉₊ := by
  -- solved for the draw, the two conditions change places
  simp only [lt_lerpRev_iff h, lerpRev_le_iff h, and_comm]
  rw [filter_gridDraw_Ico N hN _ _ ((div_le_one (sub_pos.2 h)).2 (sub_le_sub_left ha q)), Nat.card_Ico]

theorem dither_count (N : Nat) (hN : 0 < N) (lo hi a b : α) (h : lo < hi) (ha : lo ≤ a) (hab : a ≤ b) (hb : b ≤ hi) :
    ((Finset.range N).filter fun i => a ≤ scaleDither lo hi (gridDraw N i) ∧ scaleDither lo hi (gridDraw N i) < b).card =
      ⌈(b - lo) / (hi - lo) * N⌉₊ - ⌈(a - lo) / (hi - lo) * N⌉₊ :=
  lerp_count N hN lo hi a b h hb

theorem jitter_count (N : Nat) (hN : 0 < N) (γ a b : α) (hγ : 0 < γ) (ha : 1 - γ / 2 ≤ a) (hab : a ≤ b) (hb : b ≤ 1 + γ / 2) :
    ((Finset.range N).filter fun i => a ≤ jitterFactor γ (gridDraw N i) ∧ jitterFactor γ (gridDraw N i) < b).card =
      ⌈(b - (1 - γ / 2)) / γ * N⌉₊ - ⌈(a - (1 - γ / 2)) / γ * N⌉₊ := by
  have hw : 1 + γ / 2 - (1 - γ / 2) = γ := by ring
  simp only [C10.jitter_eq]
  rw [lerp_count N hN _ _ a b (C10.jitter_ends hγ) hb, hw]

theorem bounce_low_count (N : Nat) (hN : 0 < N) (xl xu xb a b : α) (h : xl < xb) (ha : xl ≤ a) (hab : a ≤ b) (hb : b ≤ xb) :
    ((Finset.range N).filter fun i => a ≤ repairLow .bounceBack xl xu xb (gridDraw N i) ∧
        repairLow .bounceBack xl xu xb (gridDraw N i) < b).card =
      ⌈(b - xl) / (xb - xl) * N⌉₊ - ⌈(a - xl) / (xb - xl) * N⌉₊ :=
  lerp_count N hN xl xb a b h hb

theorem randinit_low_count (N : Nat) (hN : 0 < N) (xl xu xb a b : α) (h : xl < xu) (ha : xl ≤ a) (hab : a ≤ b) (hb : b ≤ xu) :
    ((Finset.range N).filter fun i => a ≤ repairLow .randInit xl xu xb (gridDraw N i) ∧
        repairLow .randInit xl xu xb (gridDraw N i) < b).card =
      ⌈(b - xl) / (xu - xl) * N⌉₊ - ⌈(a - xl) / (xu - xl) * N⌉₊ :=
  lerp_count N hN xl xu a b h hb

theorem bounce_up_count (N : Nat) (hN : 0 < N) (xl xu xb a b : α) (h : xb < xu) (ha : xb ≤ a) (hab : a ≤ b) (hb : b ≤ xu) :
    ((Finset.range N).filter fun i => a < repairUp .bounceBack xl xu xb (gridDraw N i) ∧
        repairUp .bounceBack xl xu xb (gridDraw N i) ≤ b).card =
      ⌈(xu - a) / (xu - xb) * N⌉₊ - ⌈(xu - b) / (xu - xb) * N⌉₊ :=
  lerpRev_count N hN xb xu a b h ha

theorem randinit_up_count (N : Nat) (hN : 0 < N) (xl xu xb a b : α) (h : xl < xu) (ha : xl ≤ a) (hab : a ≤ b) (hb : b ≤ xu) :
    ((Finset.range N).filter fun i => a < repairUp .randInit xl xu xb (gridDraw N i) ∧
        repairUp .randInit xl xu xb (gridDraw N i) ≤ b).card =
      ⌈(xu - a) / (xu - xl) * N⌉₊ - ⌈(xu - b) / (xu - xl) * N⌉₊ :=
  lerpRev_count N hN xl xu a b h ha

end Grid

section Parents

/-- exchange of two individuals: `Equiv.swap v w`, as a plain function -/
def swapNat (v w x : Nat) : Nat := if x = v then w else if x = w then v else x

theorem swapNat_invol (v w x : Nat) : swapNat v w (swapNat v w x) = x :=
  Equiv.swap_apply_self v w x

theorem swapNat_lt (n v w x : Nat) (hv : v < n) (hw : w < n) (hx : x < n) : swapNat v w x < n := by
  unfold swapNat; split
  · exact hw
  · split
    · exact hv
    · exact hx

/-- an involution `σ` of the population that preserves admissibility, applied to every candidate, sends the streams
that select `v` injectively to streams that select `σ v` -/
theorem parent_count_le (n L : Nat) (adm : Nat → Bool) (σ : Nat → Nat) (hσ : ∀ x, σ (σ x) = x)
    (hn : ∀ x < n, σ x < n) (hadm : ∀ x, adm (σ x) = adm x) (v : Nat) :
    (Finset.univ.filter fun s : Fin L → Fin n => (List.ofFn fun j => (s j : Nat)).find? adm = some v).card ≤
    (Finset.univ.filter fun s : Fin L → Fin n => (List.ofFn fun j => (s j : Nat)).find? adm = some (σ v)).card := by
  let σ' : Fin n → Fin n := fun a => ⟨σ a, hn a a.isLt⟩
  have hσ' : Function.Involutive σ' := fun a => Fin.ext (hσ a)
  refine Finset.card_le_card_of_injOn (fun s j => σ' (s j)) (fun s hs => ?_)
    fun s _ t _ hst => funext fun j => hσ'.injective (congrFun hst j)
  have hs : (List.ofFn fun j => (s j : Nat)).find? adm = some v := (Finset.mem_filter.1 hs).2
  have hmap : (List.ofFn fun j => ((σ' (s j) : Fin n) : Nat)) = (List.ofFn fun j => (s j : Nat)).map σ := by
    rw [List.map_ofFn]; rfl
  refine Finset.mem_coe.2 (Finset.mem_filter.2 ⟨Finset.mem_univ _, ?_⟩)
  rw [hmap, first_admissible_exchange adm σ hadm, hs, Option.map_some]

/-- **randomly drawn parents are uniform over the admissible individuals**: among the `n^L` candidate streams of length
`L` (each candidate uniform on the population, as `np.random.choice(n_pop, …)` draws it), the streams whose first
admissible candidate is `v` are exactly as many as those for which it is `w`, for any two admissible individuals `v`,
`w`. That the re-selection loop ends up with that candidate is argued at `redraw_keeps_admissible`, not proved. -/
theorem uniform_parent_count (n L : Nat) (adm : Nat → Bool) (v w : Nat) (hv : v < n) (hw : w < n)
    (hav : adm v = true) (haw : adm w = true) :
    (Finset.univ.filter fun s : Fin L → Fin n => (List.ofFn fun j => (s j : Nat)).find? adm = some v).card =
    (Finset.univ.filter fun s : Fin L → Fin n => (List.ofFn fun j => (s j : Nat)).find? adm = some w).card := by
  -- the exchange of `v` and `w` is such an involution, since both are admissible
  have hadm : ∀ x, adm (swapNat v w x) = adm x := fun x => by
    unfold swapNat
    by_cases h1 : x = v
    · rw [if_pos h1, h1, hav, haw]
    · by_cases h2 : x = w
      · rw [if_neg h1, if_pos h2, h2, hav, haw]
      · rw [if_neg h1, if_neg h2]
  have hle := parent_count_le n L adm (swapNat v w) (swapNat_invol v w) (fun x => swapNat_lt n v w x hv hw) hadm
  have hvw : swapNat v w v = w := if_pos rfl
  have hwv : swapNat v w w = v := (congrArg (swapNat v w) hvw).symm.trans (swapNat_invol v w v)
  exact le_antisymm (hvw ▸ hle v) (hwv ▸ hle w)

end Parents

end C19
end Pymoode
