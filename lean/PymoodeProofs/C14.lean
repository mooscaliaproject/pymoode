/-
C14  Results do not depend on whether the extensions compiled.   — PARTIAL —

FULL STATEMENT: the pure-Python implementations return the same crowding values (up to rounding)
and lead to the same surviving set as the compiled ones on every front (constant objectives
included); the compiled nearest-neighbour helper agrees with the NumPy computation of the spacing
indicator.

PROVED: what is engine-independent *by construction of the dispatch* — cd and ce have a single implementation; the
pure-Python engine *is* the published definition (`PymoodeModel/Metrics/Prune.lean`); on a front of `N ≤ M` points mnn
(not 2nn) is all `+inf` in both engines. Read off the model, no theorem: definitions and kernels call the same
`clampRemove`, `normalizeCols`, `argminFirst` / `argmaxFirst`. The spacing helper and the NumPy expression compute the
same row statistic (`secondSmallest` = an entry of the row, C20). The refinement of the incremental compiled kernels
to the definitions is proved, under the hypotheses that exclude the known findings, in `Pcd/Simulation.lean`
(`C13.pcd_engine_independent`) and `Mnn/Simulation.lean` (`C13.mnn_engine_independent`); on every other input the
engines are compared on the real code and each against its own bit-exact Lean model in every run.
-/
import PymoodeModel.Metrics.Diversity
import Mathlib.Algebra.Order.Field.Basic

set_option linter.unusedSectionVars false

namespace Pymoode
namespace C14

variable {α : Type} [Field α] [LinearOrder α] [IsStrictOrderedRing α] [Inhabited α]

theorem cd_engine_independent (log2 neg : α → α) (f : List (List α)) (nObj : Nat) (nObjS : α) (nr : Int) :
    (rawMetric log2 neg .cd true f nObj nObjS nr).1 = (rawMetric log2 neg .cd false f nObj nObjS nr).1 := rfl

theorem ce_engine_independent (log2 neg : α → α) (f : List (List α)) (nObj : Nat) (nObjS : α) (nr : Int) :
    (rawMetric log2 neg .ce true f nObj nObjS nr).1 = (rawMetric log2 neg .ce false f nObj nObjS nr).1 := rfl

/-- the pure-Python engine is the definition and never indexes outside an array -/
theorem fallback_is_definition (log2 neg : α → α) (f : List (List α)) (nObj : Nat) (nObjS : α) (nr : Int) :
    rawMetric log2 neg .mnn false f nObj nObjS nr = (mnnFallback f nObj nr false, #[]) ∧
    rawMetric log2 neg .twonn false f nObj nObjS nr = (mnnFallback f nObj nr true, #[]) ∧
    rawMetric log2 neg .pcd false f nObj nObjS nr = (pcdFallback f nObj nObjS nr, #[]) :=
  ⟨rfl, rfl, rfl⟩

/-- the zero-range guard of `normalizeCols`, copied out for `hi = lo` (the statement does not mention `normalizeCols`):
the divisor is 1 -/
theorem normalize_constant_column (lo x : α) :
    (let diff := lo - lo
     let diff := if lo < lo then diff else (if lo < lo then diff else (1 : α))
     (x - lo) / diff) = x - lo := by
  simp

/-- mnn (`twonn = false`) on a front of `N ≤ M` points: both engines return `+inf` everywhere -/
theorem mnn_short_front_partial (f : List (List α)) (nObj : Nat) (nr : Int) (h : f.length ≤ nObj) :
    mnnFallback f nObj nr false = f.map (fun _ => Ext.top) ∧
    (mnnKernel f nObj nr false).1 = f.map (fun _ => Ext.top) := by
  -- both engines test `N ≤ M` first (`M` is `if twonn then 2 else nObj`)
  constructor
  · exact if_pos (show f.length ≤ (if false = true then 2 else nObj) from h)
  · unfold mnnKernel
    simp [h, Id.run]
    rfl

end C14
end Pymoode
