/-
C07  Every generation keeps the books: sizes, budget, provenance.
Invariant `Inv`: exactly `popSize` members, no identity twice. Preserved by every modelled
generation step; lifted to every reachable state by induction over the history.
-/
import PymoodeProofs.C06

set_option linter.unusedSectionVars false

namespace Pymoode
namespace C07
open C03 C06

variable {α : Type} [Field α] [LinearOrder α] [IsStrictOrderedRing α]

def Inv (popSize : Nat) (pop : List (IndM α)) : Prop :=
  pop.length = popSize ∧ (pop.map (·.id)).Nodup

set_option linter.unusedVariables false in -- `hv` is not needed
theorem pick_ids_nodup (cand : List (IndM α)) (ps : List Nat) (hc : (cand.map (·.id)).Nodup)
    (hp : ps.Nodup) (hv : ∀ p ∈ ps, p < cand.length) : ((pick cand ps).map (·.id)).Nodup := by
  -- the identities picked are the entries of the identity list at `ps`
  have : (pick cand ps).map (·.id) = ps.filterMap ((cand.map (·.id))[·]?) := by
    simp only [pick, List.map_filterMap, List.getElem?_map]
  rw [this]
  exact nodup_filterMap_getElem? hc hp

/-- GDE3 candidates keep identities distinct: they are drawn, each at most once, from members and offspring -/
theorem gde3Candidates_ids_nodup : ∀ (ps os : List (IndM α)),
    ((ps ++ os).map (·.id)).Nodup → ((gde3Candidates ps os).map (·.id)).Nodup := by
  intro ps os h
  obtain ⟨l, hp, hs⟩ := C05.gde3Candidates_subperm ps os
  exact (hp.map _).nodup_iff.mp (h.sublist (hs.map _))

/-- what both survival branches deliver: `popSize` distinct valid positions of a candidate list with distinct
identities give a population satisfying the invariant -/
theorem pick_inv {cand : List (IndM α)} {popSize : Nat} {ps : List Nat} (hids : (cand.map (·.id)).Nodup)
    (hsize : popSize ≤ cand.length)
    (h : ps.length = min popSize cand.length ∧ ps.Nodup ∧ ∀ p ∈ ps, p < cand.length) :
    Inv popSize (pick cand ps) :=
  ⟨by rw [pick_length cand ps h.2.2, h.1, Nat.min_eq_left hsize], pick_ids_nodup cand ps hids h.2.1 h.2.2⟩

/-- **one generation on an unconstrained problem** (NSDE, GDE3, (μ+λ)): if the candidates have
distinct identities and are at least `popSize`, the next population satisfies the invariant.
Oracle contracts: `SortedOk`, ranked positions distinct and valid, NDS ranked enough points. -/
theorem advance_inv_unconstrained (cand : List (IndM α)) (popSize : Nat)
    (fs : List (List Nat × List Nat)) (hids : (cand.map (·.id)).Nodup) (hsize : popSize ≤ cand.length)
    (hs : SortedOk fs) (hn : (pool fs).Nodup) (hv : ∀ x ∈ pool fs, x < cand.length)
    (hcover : min popSize cand.length ≤ (pool fs).length) :
    Inv popSize (advanceRnc cand popSize false [] [] fs) :=
  pick_inv hids hsize (survivalDo_unconstrained cand.length popSize fs hs hn hv hcover)

theorem advance_inv_constrained (cand : List (IndM α)) (popSize : Nat) (feas infeas : List Nat)
    (fs : List (List Nat × List Nat)) (hids : (cand.map (·.id)).Nodup) (hsize : popSize ≤ cand.length)
    (hsplit : SplitOk cand.length feas infeas)
    (hs : SortedOk fs) (hn : (pool fs).Nodup) (hv : ∀ x ∈ pool fs, x < feas.length)
    (hcover : feas ≠ [] → min feas.length (min popSize cand.length) ≤ (pool fs).length) :
    Inv popSize (advanceRnc cand popSize true feas infeas fs) :=
  pick_inv hids hsize (survivalDo_constrained cand.length popSize feas infeas fs hsplit hs hn hv hcover)

set_option linter.unusedVariables false in -- `ho` is not needed
theorem merge_ok (pop off : List (IndM α)) (popSize : Nat) (hp : Inv popSize pop)
    (ho : off.length = popSize) (hfresh : ((pop ++ off).map (·.id)).Nodup) :
    ((mergeCandidates pop off).map (·.id)).Nodup ∧ popSize ≤ (mergeCandidates pop off).length :=
  ⟨hfresh, by rw [mergeCandidates, List.length_append, hp.1]; exact Nat.le_add_right _ _⟩

theorem gde3_ok (pop off : List (IndM α)) (popSize : Nat) (hp : Inv popSize pop)
    (ho : off.length = popSize) (hfresh : ((pop ++ off).map (·.id)).Nodup) :
    ((gde3Candidates pop off).map (·.id)).Nodup ∧ popSize ≤ (gde3Candidates pop off).length :=
  ⟨gde3Candidates_ids_nodup pop off hfresh, hp.1 ▸ C05.gde3Candidates_length_ge pop off (hp.1.trans ho.symm)⟩

/-- **every reachable state**: states reachable from a population satisfying the invariant by
generation steps each of which preserves it (`advance_inv_*`, `merge_ok`, `gde3_ok` are the per-step facts) -/
inductive Reach (popSize : Nat) (step : List (IndM α) → List (IndM α) → Prop) : List (IndM α) → Prop
  | init (s : List (IndM α)) : Inv popSize s → Reach popSize step s
  | next (s s' : List (IndM α)) : Reach popSize step s → step s s' → Reach popSize step s'

theorem reachable_inv (popSize : Nat) (step : List (IndM α) → List (IndM α) → Prop)
    (hstep : ∀ s s', Inv popSize s → step s s' → Inv popSize s') :
    ∀ s, Reach popSize step s → Inv popSize s := by
  intro s hr
  induction hr with
  | init s h => exact h
  | next s s' _ hs ih => exact hstep s s' ih hs

/-- one NSDE generation on an unconstrained problem, under the oracle contracts of `advance_inv_unconstrained` -/
def NsdeStep (popSize : Nat) (s s' : List (IndM α)) : Prop :=
  ∃ off fs, off.length = popSize ∧ ((s ++ off).map (·.id)).Nodup ∧ SortedOk fs ∧ (pool fs).Nodup ∧
    (∀ x ∈ pool fs, x < (mergeCandidates s off).length) ∧
    min popSize (mergeCandidates s off).length ≤ (pool fs).length ∧
    s' = advanceRnc (mergeCandidates s off) popSize false [] [] fs

theorem nsde_reachable_inv (popSize : Nat) :
    ∀ s, Reach popSize (NsdeStep (α := α) popSize) s → Inv popSize s :=
  reachable_inv popSize _ (by
    rintro s s' hinv ⟨off, fs, h1, h2, h3, h4, h5, h6, rfl⟩
    obtain ⟨a, b⟩ := merge_ok s off popSize hinv h1 h2
    exact advance_inv_unconstrained _ popSize fs a b h3 h4 h5 h6)

def Gde3Step (popSize : Nat) (s s' : List (IndM α)) : Prop :=
  ∃ off fs, off.length = popSize ∧ ((s ++ off).map (·.id)).Nodup ∧ SortedOk fs ∧ (pool fs).Nodup ∧
    (∀ x ∈ pool fs, x < (gde3Candidates s off).length) ∧
    min popSize (gde3Candidates s off).length ≤ (pool fs).length ∧
    s' = advanceRnc (gde3Candidates s off) popSize false [] [] fs

theorem gde3_reachable_inv (popSize : Nat) :
    ∀ s, Reach popSize (Gde3Step (α := α) popSize) s → Inv popSize s :=
  reachable_inv popSize _ (by
    rintro s s' hinv ⟨off, fs, h1, h2, h3, h4, h5, h6, rfl⟩
    obtain ⟨a, b⟩ := gde3_ok s off popSize hinv h1 h2
    exact advance_inv_unconstrained _ popSize fs a b h3 h4 h5 h6)

/-- the counters of evaluations and generations, a structure of this file: no definition of the model mentions it -/
structure Books where
  nEval : Nat
  nGen : Nat

def Books.step (b : Books) (nOff : Nat) : Books := { nEval := b.nEval + nOff, nGen := b.nGen + 1 }

theorem budget (b : Books) (popSize : Nat) : (b.step popSize).nEval = b.nEval + popSize := rfl

end C07
end Pymoode
