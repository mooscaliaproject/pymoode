/-
The rows of the neighbour table of the compiled mnn / 2nn kernel (`pymoode/cython/mnn.pyx`, transcribed in
`PymoodeModel/Metrics/KernelM.lean`), operation by operation.

A row is always `vals.map some ++ List.replicate z none` (assigned slots first, then the `-1` slots). Each operation is
described once on rows of that form (`insertAt_walk`, `insertStep_shape`, `rowRemove_succ`), and two kinds of statement
are read off:

* counting, with or without ties: form and length are kept, a complete row stays complete, an incomplete row lists
  every candidate offered so far; so `c_calc_mnn_iter` completes a row when at least `M` other points are alive — what
  `Mnn/Safety.lean` needs;
* exactness on rows without distance ties: the row lists in ascending order the nearest of the candidates offered so far
  (`NearSpec`), in the end the `M` nearest live points (`IsNearest`) — what `Mnn/Simulation.lean` needs.

Nothing here mentions the definition (`mnnScratch`) or the distance matrix: distances are an arbitrary `dist`.
-/
import PymoodeProofs.Lib.List
import PymoodeProofs.Lib.Ext
import PymoodeModel.Metrics.KernelM

set_option linter.unusedSectionVars false

namespace Pymoode
namespace C13

variable {α : Type} [Field α] [LinearOrder α] [IsStrictOrderedRing α] [Inhabited α]

/-! ### a neighbour row, assigned slots first and unassigned (`-1`) slots last, as a predicate; the statements below spell
the form out instead -/

def Shape (row : List (Option Nat)) : Prop := ∃ (vals : List Nat) (z : Nat), row = vals.map some ++ List.replicate z none

def Full (row : List (Option Nat)) : Prop := none ∉ row

theorem shape_zero (vals : List Nat) : vals.map some ++ List.replicate 0 none = vals.map some :=
  List.append_nil _

theorem full_of_shape_zero (vals : List Nat) : Full (vals.map some ++ List.replicate 0 none) := by
  simp [Full]

theorem shape_full_iff (vals : List Nat) (z : Nat) : Full (vals.map some ++ List.replicate z none) ↔ z = 0 := by
  simp [Full]

/-! ### list operations on a row `vals.map some ++ List.replicate z none` -/

theorem getD_shape (vals : List Nat) (z m : Nat) : (vals.map some ++ List.replicate z none).getD m none = vals[m]? := by
  rw [List.getD_eq_getElem?_getD, List.getElem?_append, List.getElem?_map, List.getElem?_replicate, List.length_map]
  split
  next h => rw [List.getElem?_eq_getElem h]; rfl
  next h => rw [List.getElem?_eq_none (Nat.le_of_not_lt h)]; split <;> rfl

theorem take_shape (vals : List Nat) (z : Nat) {p : Nat} (hp : p ≤ vals.length) :
    (vals.map some ++ List.replicate z none).take p = (vals.take p).map some := by
  rw [List.take_append_of_le_length (by simpa using hp), List.map_take]

theorem drop_shape (vals : List Nat) (z : Nat) {p : Nat} (hp : p ≤ vals.length) :
    (vals.map some ++ List.replicate z none).drop p = (vals.drop p).map some ++ List.replicate z none := by
  rw [List.drop_append_of_le_length (by simpa using hp), List.map_drop]

theorem dropLast_shape (vals : List Nat) (z : Nat) : (vals.map some ++ List.replicate z none).dropLast =
    (if z = 0 then vals.dropLast else vals).map some ++ List.replicate (z - 1) none := by
  cases z with
  | zero => simp
  | succ z => rw [List.replicate_succ', ← List.append_assoc, List.dropLast_concat, if_neg (Nat.succ_ne_zero z)]; rfl

theorem getLast?_shape (vals : List Nat) (z : Nat) :
    (vals.map some ++ List.replicate z none).getLast?.getD none = if z = 0 then vals.getLast? else none := by
  cases z with
  | zero => rw [List.replicate_zero, List.append_nil, List.getLast?_map, if_pos rfl]; cases vals.getLast? <;> rfl
  | succ z => rw [List.replicate_succ', ← List.append_assoc, List.getLast?_concat]; rfl

/-- `Mnn[i, m:-1] = Mnn[i, m+1:]; Mnn[i, M-1] = -1` -/
theorem eraseIdx_shape (vals : List Nat) (z : Nat) {m : Nat} (hm : m < vals.length) :
    ((vals.map some ++ List.replicate z none).take m ++ (vals.map some ++ List.replicate z none).drop (m + 1)) ++ [none] =
      (vals.eraseIdx m).map some ++ List.replicate (z + 1) none := by
  rw [take_shape vals z hm.le, drop_shape vals z hm, List.replicate_succ', List.eraseIdx_eq_take_drop_succ]
  simp

/-! ### rows without distance ties: ascending, and the nearest of a pool -/

def SortedBy (dist : Nat → α) (vals : List Nat) : Prop := vals.Pairwise (fun a b => dist a < dist b)

theorem SortedBy.nodup {dist : Nat → α} {vals : List Nat} (h : SortedBy dist vals) : vals.Nodup := by
  unfold SortedBy at h
  exact h.imp (fun hab heq => by subst heq; exact lt_irrefl _ hab)

/-- `vals` (with `z` unassigned slots behind them) are the members of `pool` nearest to the row's point: ascending,
and whatever is in the pool but not in the row is farther than everything in the row — which is then complete -/
structure NearSpec (dist : Nat → α) (pool vals : List Nat) (z : Nat) : Prop where
  sorted : SortedBy dist vals
  sub : ∀ v ∈ vals, v ∈ pool
  far : ∀ v ∈ pool, v ∉ vals → z = 0 ∧ ∀ c ∈ vals, dist c < dist v

theorem NearSpec.mono_pool {dist : Nat → α} {pool pool' vals : List Nat} {z : Nat} (h : NearSpec dist pool vals z)
    (hp : ∀ v, v ∈ pool' ↔ v ∈ pool) : NearSpec dist pool' vals z :=
  ⟨h.sorted, fun v hv => (hp v).mpr (h.sub v hv), fun v hv hvn => h.far v ((hp v).mp hv) hvn⟩

theorem NearSpec.cons {dist : Nat → α} {pool vals : List Nat} {z j : Nat} (h : NearSpec dist pool vals z)
    (hj : j ∉ vals → z = 0 ∧ ∀ c ∈ vals, dist c < dist j) : NearSpec dist (j :: pool) vals z :=
  ⟨h.sorted, fun v hv => List.mem_cons_of_mem _ (h.sub v hv), fun v hv hvn => by
    rcases List.mem_cons.mp hv with rfl | hv
    · exact hj hvn
    · exact h.far v hv hvn⟩

/-- a new candidate `j`, inserted at its rank `q`; on a complete row (`z = 0`) the row is one too long afterwards -/
theorem NearSpec.insert {dist : Nat → α} {pool vals : List Nat} {z j q : Nat} (h : NearSpec dist pool vals z)
    (hqz : z = 0 → vals.drop q ≠ []) (hlo : ∀ c ∈ vals.take q, dist c < dist j)
    (hhi : ∀ c ∈ vals.drop q, dist j < dist c) :
    NearSpec dist (j :: pool) (vals.take q ++ j :: vals.drop q) (z - 1) := by
  have hmem : ∀ v, v ∈ vals.take q ++ j :: vals.drop q ↔ v = j ∨ v ∈ vals := fun v => by
    rw [List.mem_append, List.mem_cons, or_left_comm, ← List.mem_append, List.take_append_drop]
  refine ⟨List.pairwise_append.mpr ⟨h.sorted.sublist (List.take_sublist q vals),
      List.pairwise_cons.mpr ⟨hhi, h.sorted.sublist (List.drop_sublist q vals)⟩, fun a ha b hb => ?_⟩,
    fun v hv => ((hmem v).mp hv).elim (· ▸ List.mem_cons_self) fun hv => List.mem_cons_of_mem _ (h.sub v hv),
    fun v hv hvn => ?_⟩
  · rcases List.mem_cons.mp hb with rfl | hb
    · exact hlo a ha
    · exact h.sorted.rel_of_mem_take_of_mem_drop ha hb
  · -- `v` is left out of the old row as well, which is complete then, and has an entry between `j` and `v`
    rw [hmem, not_or] at hvn
    obtain ⟨hz, hfar⟩ := h.far v ((List.mem_cons.mp hv).resolve_left hvn.1) hvn.2
    obtain ⟨w, hw⟩ := List.exists_mem_of_ne_nil _ (hqz hz)
    refine ⟨by rw [hz], fun c hc => ((hmem c).mp hc).elim (fun e => ?_) (hfar c)⟩
    exact e ▸ lt_trans (hhi w hw) (hfar w (List.mem_of_mem_drop hw))

theorem NearSpec.dropFarthest {dist : Nat → α} {pool vals : List Nat} (h : NearSpec dist pool vals 0) :
    NearSpec dist pool vals.dropLast 0 := by
  refine ⟨h.sorted.sublist (List.dropLast_sublist _), fun v hv => h.sub v ((List.dropLast_sublist _).subset hv),
    fun v hv hvn => ⟨rfl, fun c hc => ?_⟩⟩
  by_cases hvv : v ∈ vals
  · -- `v` is the entry that fell off
    have hne : vals ≠ [] := List.ne_nil_of_mem hvv
    have hs := h.sorted
    rw [SortedBy, ← List.dropLast_concat_getLast hne] at hs
    rw [← List.dropLast_concat_getLast hne, List.mem_append, List.mem_singleton] at hvv
    rw [hvv.resolve_left hvn]
    exact (List.pairwise_append.mp hs).2.2 c hc _ (List.mem_singleton_self _)
  · exact (h.far v hv hvv).2 c ((List.dropLast_sublist _).subset hc)

/-! ### `mnnInsertAt`: the walk over the slots of one row for one candidate -/

/-- the assigned part of a row after candidate `j` has been written into slot `p`: the entries from `p` on move up
by one, and the last of them falls off when the row has no unassigned slot -/
def putAt (j : Nat) (vals : List Nat) (z p : Nat) : List Nat :=
  (vals.take p ++ [j]) ++ (if z = 0 then (vals.drop p).dropLast else vals.drop p)

/-- `Mnn[i, p + 1:] = Mnn[i, p:-1] ; Mnn[i, p] = j` -/
theorem put_shape (vals : List Nat) (z j : Nat) {p : Nat} (hp : p ≤ vals.length) :
    ((vals.map some ++ List.replicate z none).take p ++ [some j]) ++
        ((vals.map some ++ List.replicate z none).drop p).dropLast =
      (putAt j vals z p).map some ++ List.replicate (z - 1) none := by
  rw [take_shape vals z hp, drop_shape vals z hp, dropLast_shape, putAt]
  split <;> simp

/-- `Mnn[i, m] = j` at the first unassigned slot -/
theorem set_shape (vals : List Nat) (z j : Nat) :
    (vals.map some ++ List.replicate (z + 1) none).set vals.length (some j) =
      (putAt j vals (z + 1) vals.length).map some ++ List.replicate z none := by
  rw [putAt, if_neg (Nat.succ_ne_zero z), List.take_length, List.drop_length, List.append_nil,
    List.set_append_right _ _ (by simp)]
  simp [List.replicate_succ]

theorem length_putAt (j : Nat) (vals : List Nat) (z : Nat) {p : Nat} (hp : p ≤ vals.length)
    (hz : z = 0 → p < vals.length) : (putAt j vals z p).length + (z - 1) = vals.length + z := by
  rw [putAt, List.length_append, List.length_append, List.length_take, Nat.min_eq_left hp, List.length_singleton]
  cases z with
  | zero => rw [if_pos rfl, List.length_dropLast, List.length_drop, Nat.sub_sub, Nat.add_sub_of_le (hz rfl)]
  | succ z =>
    rw [if_neg (Nat.succ_ne_zero z), List.length_drop, Nat.add_right_comm p 1, Nat.add_sub_of_le hp, Nat.add_sub_cancel,
      Nat.add_assoc, Nat.add_comm 1 z]

theorem mem_putAt {j v : Nat} {vals : List Nat} {z p : Nat} (h : v ∈ putAt j vals z p) : v ∈ vals ∨ v = j := by
  simp only [putAt, List.mem_append, List.mem_singleton] at h
  rcases h with (h | h) | h
  · exact Or.inl (List.mem_of_mem_take h)
  · exact Or.inr h
  · split at h
    · exact Or.inl (List.mem_of_mem_drop ((List.dropLast_sublist _).subset h))
    · exact Or.inl (List.mem_of_mem_drop h)

theorem self_mem_putAt (j : Nat) (vals : List Nat) (z p : Nat) : j ∈ putAt j vals z p := by simp [putAt]

theorem subset_putAt (j : Nat) (vals : List Nat) {z : Nat} (p : Nat) (hz : z ≠ 0) : vals ⊆ putAt j vals z p := by
  intro v hv
  rw [← List.take_append_drop p vals] at hv
  simp only [putAt, if_neg hz, List.mem_append, List.mem_singleton] at hv ⊢
  exact hv.imp Or.inl id

/-- the walk of `c_calc_mnn_iter` over the slots of a row with assigned part `vals`, from slot `m` with `fuel` steps, for
a candidate `j`, stops at slot `p`: it passes the entries that are nearer than `j`, up to the first slot that holds `j`,
an entry that is not nearer, or nothing -/
structure StopsAt (dist : Nat → α) (j : Nat) (vals : List Nat) (m fuel p : Nat) : Prop where
  ge : m ≤ p
  le_fuel : p ≤ m + fuel
  le_length : p ≤ vals.length
  pass : ∀ q (hq : q < vals.length), m ≤ q → q < p → vals[q] ≠ j ∧ dist vals[q] < dist j
  stop : p < m + fuel → ∀ hp : p < vals.length, vals[p] ≠ j → ¬ dist vals[p] < dist j

theorem StopsAt.here (dist : Nat → α) (j : Nat) {vals : List Nat} {m : Nat} (fuel : Nat) (hle : m ≤ vals.length)
    (hstop : 0 < fuel → ∀ hp : m < vals.length, vals[m] ≠ j → ¬ dist vals[m] < dist j) :
    StopsAt dist j vals m fuel m :=
  ⟨le_refl _, Nat.le_add_right _ _, hle, fun _ _ h1 h2 => absurd h2 (Nat.not_lt.mpr h1),
    fun h => hstop (Nat.pos_of_lt_add_right h)⟩

theorem StopsAt.next {dist : Nat → α} {j : Nat} {vals : List Nat} {m fuel p : Nat}
    (h : StopsAt dist j vals (m + 1) fuel p) (hm : m < vals.length) (hcj : vals[m] ≠ j) (hd : dist vals[m] < dist j) :
    StopsAt dist j vals m (fuel + 1) p := by
  have e : m + 1 + fuel = m + (fuel + 1) := Nat.add_right_comm m 1 fuel
  refine ⟨Nat.le_of_succ_le h.ge, e ▸ h.le_fuel, h.le_length, fun q hq hmq hqp => ?_, fun hlt => h.stop (e ▸ hlt)⟩
  rcases Nat.eq_or_lt_of_le hmq with rfl | hlt
  · exact ⟨hcj, hd⟩
  · exact h.pass q hq hlt hqp

/-- **`mnnInsertAt` on a row `vals.map some ++ List.replicate z none`**: the row is unchanged if the steps have run out
when the walk stops, if the slots have, or if the slot where it stops holds `j`; otherwise `j` is written into that slot. -/
theorem insertAt_walk (dist : Nat → α) (j : Nat) (vals : List Nat) (z : Nat) (fuel m : Nat) (hle : m ≤ vals.length) :
    ∃ p, StopsAt dist j vals m fuel p ∧
      mnnInsertAt dist j fuel m (vals.map some ++ List.replicate z none) =
        if p = m + fuel ∨ (p = vals.length ∧ z = 0) ∨ (∃ hp : p < vals.length, vals[p] = j)
        then vals.map some ++ List.replicate z none
        else (putAt j vals z p).map some ++ List.replicate (z - 1) none := by
  induction fuel generalizing m with
  | zero =>
    exact ⟨m, .here dist j 0 hle fun h => absurd h (lt_irrefl _), by rw [if_pos (Or.inl (Nat.add_zero m).symm)]; rfl⟩
  | succ fuel ih =>
    rw [mnnInsertAt]
    by_cases hpass : ∃ hm : m < vals.length, vals[m] ≠ j ∧ dist vals[m] < dist j
    · -- slot `m` holds an entry that is nearer than `j`: on to the next slot
      obtain ⟨hlt, hcj, hd⟩ := hpass
      obtain ⟨p, hp, e⟩ := ih (m + 1) hlt
      rw [getD_shape, List.getElem?_eq_getElem hlt]
      dsimp only
      rw [if_neg hcj, if_neg (mt not_decide_eq_true.mp (not_not.mpr hd)), e, Nat.add_right_comm m 1 fuel]
      exact ⟨p, hp.next hlt hcj hd, rfl⟩
    · -- the walk stops at slot `m`
      refine ⟨m, .here dist j _ hle fun _ hp hcj hd => hpass ⟨hp, hcj, hd⟩, ?_⟩
      rcases Nat.lt_or_ge m vals.length with hlt | hge
      · rw [getD_shape, List.getElem?_eq_getElem hlt]
        dsimp only
        by_cases hcj : vals[m] = j
        · rw [if_pos hcj, if_pos (Or.inr (Or.inr ⟨hlt, hcj⟩))]
        · have hd : ¬ dist vals[m] < dist j := fun hd => hpass ⟨hlt, hcj, hd⟩
          rw [if_neg hcj, if_pos (not_decide_eq_true.mpr hd), put_shape vals z j hle, if_neg]
          rintro (h | h | ⟨_, h⟩)
          · exact (Nat.lt_add_of_pos_right (Nat.succ_pos fuel)).ne h
          · exact hlt.ne h.1
          · exact hcj h
      · -- the first unassigned slot, if there is one
        obtain rfl : m = vals.length := Nat.le_antisymm hle hge
        rw [getD_shape, List.getElem?_eq_none hge]
        cases z with
        | zero => rw [if_pos (Or.inr (Or.inl ⟨rfl, rfl⟩))]; exact List.set_eq_of_length_le (by simp)
        | succ z =>
          rw [set_shape, if_neg]
          · rfl
          · rintro (h | h | ⟨h, _⟩)
            · exact (Nat.lt_add_of_pos_right (Nat.succ_pos fuel)).ne h
            · exact Nat.succ_ne_zero z h.2
            · exact lt_irrefl _ h

theorem insertAt_spec (dist : Nat → α) (j : Nat) (vals : List Nat) (z : Nat) :
    ∀ (fuel m : Nat), m + fuel = vals.length + z → m ≤ vals.length →
      ∃ (vals' : List Nat) (z' : Nat),
        mnnInsertAt dist j fuel m (vals.map some ++ List.replicate z none) = vals'.map some ++ List.replicate z' none ∧
        vals'.length + z' = vals.length + z ∧ (z = 0 → z' = 0) ∧
        (∀ v ∈ vals', v ∈ vals ∨ v = j) ∧
        (z' ≠ 0 → j ∈ vals' ∧ ∀ v ∈ vals, v ∈ vals') := by
  intro fuel m hm hle
  obtain ⟨p, hp, e⟩ := insertAt_walk dist j vals z fuel m hle
  have hpl := hp.le_length
  rw [e]
  split
  next hc =>
    refine ⟨vals, z, rfl, rfl, id, fun v hv => Or.inl hv, fun hz => ⟨?_, fun v hv => hv⟩⟩
    -- a slot is left, so the walk has stopped at `j`
    rcases hc with h | h | ⟨hlt, rfl⟩
    · omega
    · exact absurd h.2 hz
    · exact List.getElem_mem hlt
  next hc =>
    exact ⟨putAt j vals z p, z - 1, rfl,
      length_putAt j vals z hpl fun hz => Nat.lt_of_le_of_ne hpl fun h => hc (Or.inr (Or.inl ⟨h, hz⟩)),
      fun hz => by rw [hz], fun v => mem_putAt,
      fun hz => ⟨self_mem_putAt j vals z p, subset_putAt j vals p fun h => hz (by rw [h])⟩⟩

/-- the walk over the slots of one ascending row for a candidate that is not listed and ties with nobody: it is
inserted at its rank. From any slot `m`, like `insertAt_spec` and `insertAt_member`; the callers start at `m = 0`, where
`hpre` is empty -/
theorem insertAt_exact (dist : Nat → α) (j : Nat) (vals : List Nat) (z : Nat) (hs : SortedBy dist vals)
    (hj : j ∉ vals) (hne : ∀ c ∈ vals, dist c ≠ dist j) :
    ∀ (fuel m : Nat), m + fuel = vals.length + z → m ≤ vals.length →
      (∀ p (hp : p < vals.length), p < m → dist vals[p] < dist j) →
      (z = 0 → ∃ p, ∃ (hp : p < vals.length), m ≤ p ∧ dist j < dist vals[p]) →
      ∃ q, q ≤ vals.length ∧ (z = 0 → q < vals.length) ∧
        (∀ c ∈ vals.take q, dist c < dist j) ∧ (∀ c ∈ vals.drop q, dist j < dist c) ∧
        mnnInsertAt dist j fuel m (vals.map some ++ List.replicate z none) =
          ((vals.take q ++ [j]) ++ (if z = 0 then (vals.drop q).dropLast else vals.drop q)).map some ++
            List.replicate (z - 1) none := by
  intro fuel m hm hle hpre hz
  obtain ⟨q, hq, e⟩ := insertAt_walk dist j vals z fuel m hle
  have hql := hq.le_length
  -- on a complete row the walk cannot pass the entry that is farther than `j`
  have hqz : z = 0 → q < vals.length := by
    intro hz0
    obtain ⟨p, hp, hmp, hjp⟩ := hz hz0
    by_contra hqp
    exact lt_asymm hjp (hq.pass p hp hmp (Nat.lt_of_lt_of_le hp (Nat.le_of_not_lt hqp))).2
  -- so it stops before the steps run out: at that entry or earlier, or at a free slot
  have hqf : q < m + fuel := by
    rw [hm]
    rcases Nat.eq_zero_or_pos z with hz0 | hz0
    · exact Nat.lt_add_right z (hqz hz0)
    · exact Nat.lt_of_le_of_lt hql (Nat.lt_add_of_pos_right hz0)
  refine ⟨q, hql, hqz, fun c hc => ?_, fun c hc => ?_, ?_⟩
  · obtain ⟨p, hp, rfl⟩ := List.mem_take_iff_getElem.mp hc
    rw [lt_min_iff] at hp
    rcases Nat.lt_or_ge p m with h | h
    · exact hpre p hp.2 h
    · exact (hq.pass p hp.2 h hp.1).2
  · -- the walk stopped at an entry that is not nearer, hence farther, and the later ones are farther still
    obtain ⟨d, hd, rfl⟩ := List.mem_drop_iff_getElem.mp hc
    rw [Nat.add_comm] at hd
    have hlt : q < vals.length := Nat.lt_of_le_of_lt (Nat.le_add_right q d) hd
    have hjq : dist j < dist vals[q] :=
      lt_of_le_of_ne (not_lt.mp (hq.stop hqf hlt fun h => hj (h ▸ List.getElem_mem hlt)))
        (hne _ (List.getElem_mem hlt)).symm
    rcases Nat.eq_zero_or_pos d with rfl | hd0
    · exact hjq
    · exact lt_trans hjq (List.pairwise_iff_getElem.mp hs q (q + d) hlt hd (Nat.lt_add_of_pos_right hd0))
  · rw [e, if_neg]
    · rfl
    · rintro (h | h | h)
      · exact hqf.ne h
      · exact absurd h.1 (hqz h.2).ne
      · exact hj (h.2 ▸ List.getElem_mem h.1)

/-- a candidate that the ascending row already lists is found before anything is moved -/
theorem insertAt_member (dist : Nat → α) (vals : List Nat) (z : Nat) (hs : SortedBy dist vals) (p0 : Nat)
    (hp0 : p0 < vals.length) :
    ∀ (fuel m : Nat), m ≤ p0 → p0 < m + fuel →
      mnnInsertAt dist vals[p0] fuel m (vals.map some ++ List.replicate z none) =
        vals.map some ++ List.replicate z none := by
  intro fuel m h1 h2
  obtain ⟨p, hp, e⟩ := insertAt_walk dist vals[p0] vals z fuel m (h1.trans hp0.le)
  -- the walk does not pass slot `p0`, and it does not stop earlier, where the entries are nearer
  have hpp : p ≤ p0 := by
    by_contra h
    exact (hp.pass p0 hp0 h1 (Nat.lt_of_not_le h)).1 rfl
  have hpl : p < vals.length := Nat.lt_of_le_of_lt hpp hp0
  rw [e, if_pos]
  refine Or.inr (Or.inr ⟨hpl, ?_⟩)
  by_contra hne
  have hlt : p < p0 := lt_of_le_of_ne hpp fun h => hne (by subst h; rfl)
  exact hp.stop (Nat.lt_of_le_of_lt hpp h2) hpl hne (List.pairwise_iff_getElem.mp hs p p0 hpl hp0 hlt)

set_option linter.unusedVariables false in -- `hj`, `hq` are not needed
/-- `NearSpec.insert` and, on a complete row, `NearSpec.dropFarthest`, for the row that `insertAt_exact` describes -/
theorem insert_near (dist : Nat → α) (j : Nat) (pool vals : List Nat) (z : Nat) (h : NearSpec dist pool vals z)
    (hj : j ∉ vals) (q : Nat) (hq : q ≤ vals.length) (hqz : z = 0 → q < vals.length)
    (hlo : ∀ c ∈ vals.take q, dist c < dist j) (hhi : ∀ c ∈ vals.drop q, dist j < dist c) :
    NearSpec dist (j :: pool) ((vals.take q ++ [j]) ++ (if z = 0 then (vals.drop q).dropLast else vals.drop q))
      (z - 1) := by
  have hne : z = 0 → vals.drop q ≠ [] := fun hz =>
    List.ne_nil_of_length_pos (by rw [List.length_drop]; exact Nat.sub_pos_of_lt (hqz hz))
  have hins := h.insert hne hlo hhi
  rw [List.append_assoc, List.singleton_append]
  split
  next hz =>
    subst hz
    have := hins.dropFarthest
    rwa [List.dropLast_append_of_ne_nil (List.cons_ne_nil _ _), List.dropLast_cons_of_ne_nil (hne rfl)] at this
  next => exact hins

/-! ### `mnnInsertStep`: one candidate of `c_calc_mnn_iter` for one row -/

/-- a candidate is skipped when it is the row's own point, or when the row is complete and its last entry is nearer
(mnn.pyx:207) -/
theorem insertStep_shape (dist : Nat → α) (i j : Nat) (vals : List Nat) (z : Nat) :
    mnnInsertStep dist i j (vals.map some ++ List.replicate z none) =
      if j = i ∨ (z = 0 ∧ ∃ c, vals.getLast? = some c ∧ dist c < dist j) then vals.map some ++ List.replicate z none
      else mnnInsertAt dist j (vals.length + z) 0 (vals.map some ++ List.replicate z none) := by
  unfold mnnInsertStep
  rw [getLast?_shape, List.length_append, List.length_map, List.length_replicate]
  by_cases hji : j = i
  · simp [hji]
  by_cases hz : z = 0
  · cases vals.getLast? <;> simp [hji, hz, -not_lt]
  · simp [hji, hz]

theorem insertStep_spec (dist : Nat → α) (i j : Nat) (vals : List Nat) (z : Nat) :
    ∃ (vals' : List Nat) (z' : Nat),
      mnnInsertStep dist i j (vals.map some ++ List.replicate z none) = vals'.map some ++ List.replicate z' none ∧
      vals'.length + z' = vals.length + z ∧ (z = 0 → z' = 0) ∧
      (∀ v ∈ vals', v ∈ vals ∨ v = j) ∧
      (z' ≠ 0 → (j ≠ i → j ∈ vals') ∧ ∀ v ∈ vals, v ∈ vals') := by
  rw [insertStep_shape]
  split
  next hc =>
    exact ⟨vals, z, rfl, rfl, id, fun v hv => Or.inl hv, fun hz =>
      ⟨fun hji => hc.elim (absurd · hji) (absurd ·.1 hz), fun v hv => hv⟩⟩
  next =>
    obtain ⟨vals', z', e, h1, h2, h3, h4⟩ := insertAt_spec dist j vals z (vals.length + z) 0 (Nat.zero_add _) (Nat.zero_le _)
    exact ⟨vals', z', e, h1, h2, h3, fun hz' => ⟨fun _ => (h4 hz').1, (h4 hz').2⟩⟩

theorem insertStep_near (dist : Nat → α) (i j : Nat) (pool vals : List Nat) (z : Nat)
    (h : NearSpec dist pool vals z) (hne : ∀ c ∈ vals, c ≠ j → dist c ≠ dist j) :
    ∃ (vals' : List Nat) (z' : Nat),
      mnnInsertStep dist i j (vals.map some ++ List.replicate z none) = vals'.map some ++ List.replicate z' none ∧
      vals'.length + z' = vals.length + z ∧
      NearSpec dist (if j = i then pool else j :: pool) vals' z' := by
  rw [insertStep_shape]
  by_cases hji : j = i
  · rw [if_pos (Or.inl hji), if_pos hji]
    exact ⟨vals, z, rfl, rfl, h⟩
  rw [if_neg hji]
  by_cases hjv : j ∈ vals
  · -- already listed: skipped, or found by the walk
    refine ⟨vals, z, ?_, rfl, h.cons fun hn => absurd hjv hn⟩
    split
    · rfl
    · obtain ⟨p0, hp0, rfl⟩ := List.mem_iff_getElem.mp hjv
      exact insertAt_member dist vals z h.sorted p0 hp0 (vals.length + z) 0 (Nat.zero_le _)
        (by rw [Nat.zero_add]; exact Nat.lt_add_right z hp0)
  have hne' : ∀ c ∈ vals, dist c ≠ dist j := fun c hc => hne c hc fun e => hjv (e ▸ hc)
  by_cases hfar : z = 0 ∧ ∀ c ∈ vals, dist c < dist j
  · -- farther than all entries of a complete row: skipped, unless the row has no slots at all
    refine ⟨vals, z, ?_, rfl, h.cons fun _ => hfar⟩
    split
    · rfl
    next hc =>
      cases hl : vals.getLast? with
      | none => rw [List.getLast?_eq_none_iff.mp hl, hfar.1]; rfl
      | some c => exact absurd (Or.inr ⟨hfar.1, c, hl, hfar.2 c (List.mem_of_getLast? hl)⟩) hc
  · -- otherwise the candidate is not skipped: were the last entry of a complete row nearer, all would be
    rw [if_neg]
    · have hz : z = 0 → ∃ p, ∃ (hp : p < vals.length), 0 ≤ p ∧ dist j < dist vals[p] := by
        intro hz
        obtain ⟨c, hc, hcj⟩ : ∃ c ∈ vals, ¬ dist c < dist j := by
          by_contra hcon
          exact hfar ⟨hz, fun c hc => not_not.mp fun hcj => hcon ⟨c, hc, hcj⟩⟩
        obtain ⟨p, hp, rfl⟩ := List.mem_iff_getElem.mp hc
        exact ⟨p, hp, Nat.zero_le _, lt_of_le_of_ne (not_lt.mp hcj) (hne' _ hc).symm⟩
      obtain ⟨q, hq, hqz, hlo, hhi, e⟩ := insertAt_exact dist j vals z h.sorted hjv hne' (vals.length + z) 0
        (Nat.zero_add _) (Nat.zero_le _) (fun p hp hp0 => absurd hp0 (Nat.not_lt_zero p)) hz
      -- the row `insertAt_exact` spells out is `putAt j vals z q`
      exact ⟨_, _, e, length_putAt j vals z hq hqz, insert_near dist j pool vals z h hjv q hq hqz hlo hhi⟩
    · rintro (h' | ⟨hz, c, hc, hcj⟩)
      · exact hji h'
      · obtain ⟨ys, rfl⟩ := List.getLast?_eq_some_iff.mp hc
        refine hfar ⟨hz, fun c' hc' => ?_⟩
        rcases List.mem_append.mp hc' with h1 | h1
        · exact lt_trans ((List.pairwise_append.mp h.sorted).2.2 c' h1 c (List.mem_singleton_self c)) hcj
        · rw [List.mem_singleton.mp h1]; exact hcj

/-! ### `mnnRefill`: `c_calc_mnn_iter` for one row, all live candidates -/

/-- after all candidates the row is complete, or it lists every candidate -/
theorem refill_spec (dist : Nat → α) (i : Nat) : ∀ (h : List Nat) (vals : List Nat) (z : Nat),
    ∃ (vals' : List Nat) (z' : Nat),
      mnnRefill dist i h (vals.map some ++ List.replicate z none) = vals'.map some ++ List.replicate z' none ∧
      vals'.length + z' = vals.length + z ∧ (z = 0 → z' = 0) ∧
      (∀ v ∈ vals', v ∈ vals ∨ v ∈ h) ∧
      (z' ≠ 0 → (∀ j ∈ h, j ≠ i → j ∈ vals') ∧ ∀ v ∈ vals, v ∈ vals') := by
  intro h
  induction h with
  | nil =>
    exact fun vals z => ⟨vals, z, rfl, rfl, id, fun v hv => Or.inl hv,
      fun _ => ⟨fun j hj _ => absurd hj List.not_mem_nil, fun v hv => hv⟩⟩
  | cons a t ih =>
    intro vals z
    obtain ⟨v1, z1, e1, l1, f1, s1, r1⟩ := insertStep_spec dist i a vals z
    obtain ⟨v2, z2, e2, l2, f2, s2, r2⟩ := ih v1 z1
    refine ⟨v2, z2, by rw [mnnRefill, List.foldl_cons, e1]; exact e2, l2.trans l1, fun h => f2 (f1 h), ?_, ?_⟩
    · intro v hv
      rcases s2 v hv with h | h
      · rcases s1 v h with h' | rfl
        · exact Or.inl h'
        · exact Or.inr List.mem_cons_self
      · exact Or.inr (List.mem_cons_of_mem _ h)
    · -- a slot is left at the end, so one was left after `a`, and nothing has fallen off since
      intro hz2
      obtain ⟨q1, q2⟩ := r2 hz2
      obtain ⟨p1, p2⟩ := r1 fun h => hz2 (f2 h)
      refine ⟨fun j hj hji => ?_, fun v hv => q2 v (p2 v hv)⟩
      rcases List.mem_cons.mp hj with rfl | hj
      · exact q2 j (p1 hji)
      · exact q1 j hj hji

/-- the counting argument: a row that lists all the other live points unless it is complete is complete, when these
are at least as many as its slots -/
theorem slots_full {h vals : List Nat} {i z M : Nat} (hnd : h.Nodup) (hl : vals.length + z = M)
    (hcount : M ≤ (h.filter (· != i)).length) (hsub : z ≠ 0 → h.filter (· != i) ⊆ vals) : z = 0 := by
  by_contra hz
  have := (List.subperm_of_subset (hnd.filter _) (hsub hz)).length_le
  omega

/-- **a refilled row is complete** when at least as many other points are alive as the row has slots -/
theorem refill_full (dist : Nat → α) (i : Nat) (h : List Nat) (hnd : h.Nodup) (vals : List Nat) (z : Nat)
    (hcount : vals.length + z ≤ (h.filter (· != i)).length) :
    ∃ vals' : List Nat, mnnRefill dist i h (vals.map some ++ List.replicate z none) = vals'.map some ∧
      vals'.length = vals.length + z ∧ ∀ v ∈ vals', v ∈ vals ∨ v ∈ h := by
  obtain ⟨vals', z', e, hl, _, hs, hr⟩ := refill_spec dist i h vals z
  obtain rfl : z' = 0 := slots_full hnd hl hcount fun hz' j hj =>
    (hr hz').1 j (mem_filter_ne.mp hj).1 (mem_filter_ne.mp hj).2
  exact ⟨vals', shape_zero vals' ▸ e, hl, hs⟩

/-- the pool after the candidates `h` (all but the row's own point) have been offered -/
def addCands (i : Nat) (h pool : List Nat) : List Nat := h.foldl (fun p j => if j = i then p else j :: p) pool

theorem addCands_eq (i : Nat) (h pool : List Nat) : addCands i h pool = (h.filter (· != i)).reverse ++ pool := by
  induction h generalizing pool with
  | nil => rfl
  | cons a t ih =>
    rw [addCands, List.foldl_cons, ← addCands, ih]
    by_cases hai : a = i <;> simp [hai]

/-- no two candidates at the same distance: after all candidates have been offered the row lists the nearest members
of the initial pool and the candidates -/
theorem refill_near (dist : Nat → α) (n : Nat) (hinj : ∀ a b, a < n → b < n → a ≠ b → dist a ≠ dist b) (i : Nat) :
    ∀ (h pool vals : List Nat) (z : Nat), (∀ j ∈ h, j < n) → (∀ v ∈ pool, v < n) → NearSpec dist pool vals z →
      ∃ (vals' : List Nat) (z' : Nat),
        mnnRefill dist i h (vals.map some ++ List.replicate z none) = vals'.map some ++ List.replicate z' none ∧
        vals'.length + z' = vals.length + z ∧ NearSpec dist (addCands i h pool) vals' z' := by
  intro h
  induction h with
  | nil => exact fun pool vals z _ _ hn => ⟨vals, z, rfl, rfl, hn⟩
  | cons a t ih =>
    intro pool vals z hh hp hn
    have ha : a < n := hh a List.mem_cons_self
    obtain ⟨v1, z1, e1, l1, n1⟩ := insertStep_near dist i a pool vals z hn
      (fun c hc hca => hinj c a (hp c (hn.sub c hc)) ha hca)
    have hp1 : ∀ v ∈ (if a = i then pool else a :: pool), v < n := by
      intro v hv
      split at hv
      · exact hp v hv
      · exact (List.mem_cons.mp hv).elim (· ▸ ha) (hp v)
    obtain ⟨v2, z2, e2, l2, n2⟩ := ih _ v1 z1 (fun j hj => hh j (List.mem_cons_of_mem _ hj)) hp1 n1
    exact ⟨v2, z2, by rw [mnnRefill, List.foldl_cons, e1]; exact e2, l2.trans l1, n2⟩

/-- `vals` are the `M` live points nearest to point `i`, in ascending order of distance -/
def IsNearest (dist : Nat → α) (M i : Nat) (live vals : List Nat) : Prop :=
  vals.length = M ∧ NearSpec dist (live.filter (· != i)) vals 0

/-- **a refilled row is the list of the `M` nearest live points** -/
theorem refill_isNearest (dist : Nat → α) (n : Nat) (hinj : ∀ a b, a < n → b < n → a ≠ b → dist a ≠ dist b)
    (i : Nat) (h : List Nat) (hnd : h.Nodup) (hlt : ∀ j ∈ h, j < n) (vals : List Nat) (z : Nat)
    (hs : SortedBy dist vals) (hsub : ∀ v ∈ vals, v ∈ h ∧ v ≠ i)
    (hcount : vals.length + z ≤ (h.filter (· != i)).length) :
    ∃ vals' : List Nat, mnnRefill dist i h (vals.map some ++ List.replicate z none) = vals'.map some ∧
      IsNearest dist (vals.length + z) i h vals' := by
  -- start from the row's own entries as pool; they are candidates anyway
  obtain ⟨vals', z', e, hl, hn⟩ := refill_near dist n hinj i h vals vals z hlt (fun v hv => hlt v (hsub v hv).1)
    ⟨hs, fun v hv => hv, fun v hv hvn => absurd hv hvn⟩
  have hn' : NearSpec dist (h.filter (· != i)) vals' z' := hn.mono_pool fun v => by
    rw [addCands_eq, List.mem_append, List.mem_reverse]
    exact ⟨Or.inl, fun hv => hv.elim id fun hv => mem_filter_ne.mpr (hsub v hv)⟩
  obtain rfl : z' = 0 := slots_full hnd hl hcount fun hz' v hv => by
    by_contra hvn
    exact hz' (hn'.far v hv hvn).1
  exact ⟨vals', shape_zero vals' ▸ e, hl, hn'⟩

theorem isNearest_mem {dist : Nat → α} {M i : Nat} {live vals : List Nat} (h : IsNearest dist M i live vals) :
    ∀ v ∈ vals, v ∈ live ∧ v ≠ i :=
  fun v hv => mem_filter_ne.mp (h.2.sub v hv)

theorem isNearest_filter {dist : Nat → α} {M i : Nat} {live vals : List Nat} (h : IsNearest dist M i live vals)
    (r : Nat) (hr : r ∉ vals) : IsNearest dist M i (live.filter (· != r)) vals := by
  refine ⟨h.1, h.2.sorted, fun v hv => ?_, fun v hv hvn => h.2.far v ?_ hvn⟩
  · obtain ⟨hvl, hvi⟩ := isNearest_mem h v hv
    exact mem_filter_ne.mpr ⟨mem_filter_ne.mpr ⟨hvl, fun e => hr (e ▸ hv)⟩, hvi⟩
  · obtain ⟨hv1, hvi⟩ := mem_filter_ne.mp hv
    exact mem_filter_ne.mpr ⟨(mem_filter_ne.mp hv1).1, hvi⟩

theorem isNearest_take {dist : Nat → α} {live tl : List Nat} {i : Nat} (M : Nat) (hs : SortedBy dist tl)
    (hmem : ∀ v, v ∈ tl ↔ v ∈ live ∧ v ≠ i) (hM : M ≤ tl.length) : IsNearest dist M i live (tl.take M) :=
  ⟨List.length_take_of_le hM, hs.sublist (List.take_sublist _ _),
    fun v hv => mem_filter_ne.mpr ((hmem v).mp (List.mem_of_mem_take hv)),
    fun v hv hvn => ⟨rfl, fun _ hc => hs.rel_of_mem_take_of_mem_drop hc
      (mem_drop_of_not_mem_take ((hmem v).mpr (mem_filter_ne.mp hv)) hvn)⟩⟩

/-! ### `mnnRowRemove`: `c_get_calc_items` on one row -/

/-- one slot: an assigned slot that holds `k` is closed by the left shift, and the scan goes on behind it -/
theorem rowRemove_succ (k fuel m : Nat) (vals : List Nat) (z : Nat) (hit : Bool) :
    mnnRowRemove k (fuel + 1) m (vals.map some ++ List.replicate z none) hit =
      if vals[m]? = some k
      then mnnRowRemove k fuel (m + 1) ((vals.eraseIdx m).map some ++ List.replicate (z + 1) none) true
      else mnnRowRemove k fuel (m + 1) (vals.map some ++ List.replicate z none) hit := by
  rw [mnnRowRemove, getD_shape]
  split
  next h => rw [eraseIdx_shape vals z (List.getElem?_eq_some_iff.mp h).1]
  next => rfl

/-- with or without duplicates in the row: form and length survive and nothing new comes in -/
theorem rowRemove_spec (k : Nat) : ∀ (fuel m : Nat) (vals : List Nat) (z : Nat) (hit : Bool),
    ∃ (vals' : List Nat) (z' : Nat),
      (mnnRowRemove k fuel m (vals.map some ++ List.replicate z none) hit).1 = vals'.map some ++ List.replicate z' none ∧
      vals'.length + z' = vals.length + z ∧ vals' ⊆ vals := by
  intro fuel
  induction fuel with
  | zero => exact fun m vals z hit => ⟨vals, z, rfl, rfl, fun v hv => hv⟩
  | succ fuel ih =>
    intro m vals z hit
    rw [rowRemove_succ]
    split
    next hk =>
      obtain ⟨v', z', e', l', s'⟩ := ih (m + 1) (vals.eraseIdx m) (z + 1) true
      have hm := (List.getElem?_eq_some_iff.mp hk).1
      rw [List.length_eraseIdx_of_lt hm, Nat.add_left_comm, Nat.sub_add_cancel (Nat.zero_lt_of_lt hm), Nat.add_comm z] at l'
      exact ⟨v', z', e', l', fun v hv => (List.eraseIdx_sublist _ _).subset (s' hv)⟩
    next => exact ih (m + 1) vals z hit

theorem rowRemove_notin (k : Nat) (vals : List Nat) (z : Nat) (hk : k ∉ vals) : ∀ (fuel m : Nat) (hit : Bool),
    mnnRowRemove k fuel m (vals.map some ++ List.replicate z none) hit = (vals.map some ++ List.replicate z none, hit) := by
  intro fuel
  induction fuel with
  | zero => exact fun _ _ => rfl
  | succ fuel ih =>
    intro m hit
    rw [rowRemove_succ, if_neg fun h => hk (List.mem_of_getElem? h)]
    exact ih (m + 1) hit

theorem rowRemove_erase (k : Nat) (vals : List Nat) (z : Nat) (hnd : vals.Nodup) (hk : k ∈ vals) :
    ∀ (fuel m : Nat) (hit : Bool), m ≤ vals.idxOf k → vals.idxOf k < m + fuel →
      mnnRowRemove k fuel m (vals.map some ++ List.replicate z none) hit =
        ((vals.erase k).map some ++ List.replicate (z + 1) none, true) := by
  intro fuel
  induction fuel with
  | zero => exact fun m _ h1 h2 => absurd h1 (Nat.not_le.mpr h2)
  | succ fuel ih =>
    intro m hit h1 h2
    rw [rowRemove_succ]
    split
    next hmk =>
      -- slot `m` holds the one occurrence of `k`; the scan finds nothing behind it
      obtain ⟨hm, hmk⟩ := List.getElem?_eq_some_iff.mp hmk
      rw [← List.erase_eq_eraseIdx_of_idxOf (a := k) (by rw [← hmk, hnd.idxOf_getElem])]
      exact rowRemove_notin k _ (z + 1) hnd.not_mem_erase fuel (m + 1) true
    next hmk =>
      have hne : m ≠ vals.idxOf k := fun h => hmk (h ▸ List.getElem?_idxOf hk)
      exact ih (m + 1) hit (Nat.lt_of_le_of_ne h1 hne) (Nat.add_right_comm m 1 fuel ▸ h2)

/-- `rowRemove_erase` with the slot of `k` given and the row that is left unnamed -/
theorem rowRemove_hit (k : Nat) (vals : List Nat) (z : Nat) (hnd : vals.Nodup) (pk : Nat) (hpk : pk < vals.length)
    (hk : vals[pk] = k) : ∀ (fuel m : Nat) (hit : Bool), m ≤ pk → pk < m + fuel →
      ∃ vals' : List Nat,
        mnnRowRemove k fuel m (vals.map some ++ List.replicate z none) hit =
          (vals'.map some ++ List.replicate (z + 1) none, true) ∧
        vals'.Sublist vals ∧ k ∉ vals' ∧ vals'.length + 1 = vals.length := by
  intro fuel m hit h1 h2
  have hkm : k ∈ vals := hk ▸ List.getElem_mem hpk
  have hidx : vals.idxOf k = pk := by rw [← hk, hnd.idxOf_getElem]
  refine ⟨vals.erase k, rowRemove_erase k vals z hnd hkm fuel m hit (hidx ▸ h1) (hidx ▸ h2), List.erase_sublist,
    hnd.not_mem_erase, ?_⟩
  rw [List.length_erase_of_mem hkm, Nat.sub_add_cancel (List.length_pos_of_mem hkm)]

/-! ### `mnnProd`: `c_calc_d` for one row -/

theorem mnnProd_full (dist : Nat → α) (vals : List Nat) :
    mnnProd dist (vals.map some) = (vals.foldl (fun a c => a * dist c) 1, true) := by
  have : ∀ (l : List Nat) (acc : α × Bool),
      (l.map some).foldl (fun acc nb => match nb with
        | some c => (acc.1 * dist c, acc.2)
        | none => (acc.1, false)) acc = (l.foldl (fun a c => a * dist c) acc.1, acc.2) := by
    intro l
    induction l with
    | nil => exact fun acc => rfl
    | cons a t ih => exact fun acc => ih _
  exact this vals (1, true)

end C13
end Pymoode
