/-
C13: **memory safety of the compiled mnn / 2nn kernel** (`pymoode/cython/mnn.pyx`, functional
transcription `mnnKernelF` of `PymoodeModel/Metrics/KernelM.lean`) for every front and every number of removals:
whenever the kernel uses a neighbour slot as a column index of the distance matrix (`D[i, Mnn[i, m]]`, mnn.pyx:224
and mnn.pyx:243) the slot is assigned. The model clears `ok` there otherwise, as it would with fewer than `M` other points
alive, and `mnnKernelF_safe` says `ok = true`: the clamped `n_remove` leaves `M` others alive, so the re-insertion loop
refills every row completely. Not covered: the read at mnn.pyx:207 (`D[i, Mnn[i, M-1]]` evaluated *before*
`or Mnn[i, M-1] == -1`, value unused), known finding F4; the model tests the slot first, so it neither performs that
read nor records it in `ok`. No hypothesis on ties: the duplicate-neighbour defect F9 makes values wrong, not indices.

The counting statements of `Mnn/Rows.lean` are lifted to the table, phase by phase of a pass, and to the loop (`MInv`).
Last, also without a hypothesis on ties: the values are non-negative or `+inf`, the extremes `+inf`.
-/
import PymoodeProofs.Mnn.Rows
import PymoodeProofs.Lib.Prune
import PymoodeProofs.C13

set_option linter.unusedSectionVars false

namespace Pymoode
namespace C13

variable {α : Type} [Field α] [LinearOrder α] [IsStrictOrderedRing α] [Inhabited α]

/-- a well-formed row of the neighbour table: assigned slots first, `mNb` slots, valid indices -/
def RowOK (n mNb : Nat) (row : List (Option Nat)) : Prop :=
  ∃ (vals : List Nat) (z : Nat), row = vals.map some ++ List.replicate z none ∧ vals.length + z = mNb ∧ ∀ v ∈ vals, v < n

/-- a well-formed row without a `-1` slot: all `mNb` neighbours assigned -/
def RowFull (n mNb : Nat) (row : List (Option Nat)) : Prop :=
  ∃ (vals : List Nat), row = vals.map some ∧ vals.length = mNb ∧ ∀ v ∈ vals, v < n

theorem rowFull_ok {n mNb : Nat} {row : List (Option Nat)} (h : RowFull n mNb row) : RowOK n mNb row := by
  obtain ⟨vals, e, l, v⟩ := h
  exact ⟨vals, 0, e.trans (shape_zero vals).symm, l, v⟩

/-- row `i` of the table `T` after the scan of `c_get_calc_items` for the pruned point `k`, and whether it listed `k` -/
def rowQ (k : Nat) (T : List (List (Option Nat))) (i : Nat) : List (Option Nat) × Bool :=
  mnnRowRemove k (T.getD i []).length 0 (T.getD i []) false

theorem rowQ_ok {n mNb : Nat} (k : Nat) {T : List (List (Option Nat))} {i : Nat} (h : RowOK n mNb (T.getD i [])) :
    RowOK n mNb (rowQ k T i).1 := by
  obtain ⟨vals, z, e, hl, hv⟩ := h
  obtain ⟨v', z', e', l', s'⟩ := rowRemove_spec k (T.getD i []).length 0 vals z false
  rw [← e] at e'
  exact ⟨v', z', e', l'.trans hl, fun v hv' => hv v (s' hv')⟩

/-- one row of `c_get_calc_items`: the function that `mnnStepF` folds over the live rows (`mnnStepF_eq`) -/
def removeStep (k : Nat) (acc : List (List (Option Nat)) × List Nat) (i : Nat) : List (List (Option Nat)) × List Nat :=
  let row := acc.1.getD i []
  let q := mnnRowRemove k row.length 0 row false
  if q.2 then (acc.1.set i q.1, insertSorted i acc.2) else acc

theorem removeStep_eq (k : Nat) (T : List (List (Option Nat))) (S : List Nat) (a : Nat) : removeStep k (T, S) a =
    if (rowQ k T a).2 = true then (T.set a (rowQ k T a).1, insertSorted a S) else (T, S) := rfl

/-- one row of `c_get_calc_items`, entry by entry: row `a` is rewritten and reported iff it lists `k` -/
theorem removeStep_get (k : Nat) (T : List (List (Option Nat))) (S : List Nat) (a : Nat) :
    (removeStep k (T, S) a).1.length = T.length ∧
    (∀ i, (removeStep k (T, S) a).1.getD i [] =
      if i = a ∧ (rowQ k T a).2 = true then (rowQ k T a).1 else T.getD i []) ∧
    (∀ i, i ∈ (removeStep k (T, S) a).2 ↔ i ∈ S ∨ (i = a ∧ (rowQ k T a).2 = true)) := by
  by_cases hq : (rowQ k T a).2 = true
  · -- a row out of range is empty and lists nothing
    have han : a < T.length := by
      by_contra ha
      rw [rowQ, List.getD_eq_default _ _ (Nat.le_of_not_lt ha)] at hq
      cases hq
    rw [removeStep_eq, if_pos hq]
    refine ⟨List.length_set, fun i => ?_, fun i => ?_⟩
    · simp only [getD_set, han, hq, and_true, eq_comm]
    · simp only [mem_insertSorted, hq, and_true, or_comm]
  · rw [removeStep_eq, if_neg hq]
    exact ⟨rfl, fun i => (if_neg fun h => hq h.2).symm, fun i => (or_iff_left fun h => hq h.2).symm⟩

/-- `c_get_calc_items` over the live rows: all rows stay well-formed; a row that is not reported is untouched -/
theorem removeAll_spec (n mNb k : Nat) : ∀ (l : List Nat) (T : List (List (Option Nat))) (S : List Nat),
    T.length = n → (∀ i, i < n → RowOK n mNb (T.getD i [])) →
    (l.foldl (removeStep k) (T, S)).1.length = n ∧
    (∀ i, i < n → RowOK n mNb ((l.foldl (removeStep k) (T, S)).1.getD i [])) ∧
    (∀ i, i ∉ (l.foldl (removeStep k) (T, S)).2 → (l.foldl (removeStep k) (T, S)).1.getD i [] = T.getD i []) ∧
    (∀ i, i ∈ (l.foldl (removeStep k) (T, S)).2 → i ∈ S ∨ i ∈ l) ∧
    (∀ i, i ∈ S → i ∈ (l.foldl (removeStep k) (T, S)).2) := by
  intro l
  induction l with
  | nil => exact fun T S hT hrows => ⟨hT, hrows, fun _ _ => rfl, fun i hi => Or.inl hi, fun i hi => hi⟩
  | cons a t ih =>
    intro T S hT hrows
    obtain ⟨s1, s2, s3⟩ := removeStep_get k T S a
    rw [List.foldl_cons]
    generalize removeStep k (T, S) a = acc at s1 s2 s3 ⊢
    obtain ⟨h1, h2, h3, h4, h5⟩ := ih acc.1 acc.2 (s1.trans hT) fun i hi => by
      rw [s2 i]
      split
      next h => exact rowQ_ok k (hrows a (h.1 ▸ hi))
      next => exact hrows i hi
    refine ⟨h1, h2, fun i hi => ?_, fun i hi => ?_, fun i hi => h5 i ((s3 i).mpr (Or.inl hi))⟩
    · -- a row that was rewritten has been reported, and stays so
      rw [h3 i hi, s2 i, if_neg fun h => hi (h5 i ((s3 i).mpr (Or.inr h)))]
    · rcases h4 i hi with h | h
      · exact ((s3 i).mp h).imp id fun h' : i = a ∧ _ => h'.1 ▸ List.mem_cons_self
      · exact Or.inr (List.mem_cons_of_mem _ h)

/-- `c_calc_mnn_iter` over the items: every item's row becomes complete, the other rows are untouched -/
theorem refillAll_spec (n mNb : Nat) (dist : Nat → Nat → α) (h : List Nat) (hnd : h.Nodup) (hlt : ∀ j ∈ h, j < n)
    (hcount : ∀ i, mNb ≤ (h.filter (· != i)).length) :
    ∀ (items : List Nat) (T : List (List (Option Nat))), T.length = n → (∀ i, i < n → RowOK n mNb (T.getD i [])) →
      (∀ i ∈ items, i < n) →
      (items.foldl (fun t i => t.set i (mnnRefill (dist i) i h (t.getD i []))) T).length = n ∧
      (∀ i, i < n → RowOK n mNb ((items.foldl (fun t i => t.set i (mnnRefill (dist i) i h (t.getD i []))) T).getD i [])) ∧
      (∀ i ∈ items, RowFull n mNb ((items.foldl (fun t i => t.set i (mnnRefill (dist i) i h (t.getD i []))) T).getD i [])) ∧
      (∀ i, i ∉ items → (items.foldl (fun t i => t.set i (mnnRefill (dist i) i h (t.getD i []))) T).getD i [] = T.getD i []) ∧
      (∀ i, RowFull n mNb (T.getD i []) →
        RowFull n mNb ((items.foldl (fun t i => t.set i (mnnRefill (dist i) i h (t.getD i []))) T).getD i [])) := by
  intro items T hT hrows hitems
  -- refilling a well-formed row makes it complete, because enough points are alive
  have hfull : ∀ i, i < n → ∀ r, RowOK n mNb r → RowFull n mNb (mnnRefill (dist i) i h r) := by
    rintro i hi _ ⟨vals, z, rfl, hl, hv⟩
    obtain ⟨vals', e', l', s'⟩ := refill_full (dist i) i h hnd vals z (hl ▸ hcount i)
    exact ⟨vals', e', l'.trans hl, fun v hv' => (s' v hv').elim (hv v) (hlt v)⟩
  obtain ⟨h1, h2, h3, h4⟩ := foldl_rows_inv (fun i => mnnRefill (dist i) i h) [] (fun i r => i < n → RowOK n mNb r)
    items T (fun i hi r hr _ => rowFull_ok (hfull i (hitems i hi) r (hr (hitems i hi)))) hrows
  have h5 : ∀ i ∈ items, RowFull n mNb
      ((items.foldl (fun t i => t.set i (mnnRefill (dist i) i h (t.getD i []))) T).getD i []) := by
    intro i hi
    obtain ⟨r, hr, e⟩ := h4 i hi (hT ▸ hitems i hi)
    rw [e]
    exact hfull i (hitems i hi) r (hr (hitems i hi))
  refine ⟨h1.trans hT, h2, h5, h3, fun i hi => ?_⟩
  by_cases hit : i ∈ items
  · exact h5 i hit
  · rw [h3 i hit]; exact hi

theorem calcD_ok (n mNb : Nat) (dist : Nat → Nat → α) (T : List (List (Option Nat))) (items : List Nat)
    (d : List (Ext α)) (ok : Bool) (hok : ok = true) (hfull : ∀ i ∈ items, RowFull n mNb (T.getD i [])) :
    (items.foldl (fun (acc : List (Ext α) × Bool) i =>
      let p := mnnProd (dist i) (T.getD i [])
      (acc.1.set i (Ext.fin p.1), acc.2 && p.2)) (d, ok)).2 = true := by
  -- `c_calc_d` keeps the flag iff every item's row is complete
  rw [foldl_set_flag, hok, Bool.true_and, List.all_eq_true]
  intro i hi
  obtain ⟨vals, e, _, _⟩ := hfull i hi
  rw [e, mnnProd_full]

/-- `rows` holds of every row, those of dead points included; `full` of the rows of live non-extreme points, the ones
`c_calc_d` multiplies over -/
structure MInv (n mNb : Nat) (ex : List Nat) (st : MnnState α) : Prop where
  len : st.mnn.length = n
  rows : ∀ i, i < n → RowOK n mNb (st.mnn.getD i [])
  full : ∀ i ∈ st.h, i ∉ ex → RowFull n mNb (st.mnn.getD i [])
  nodup : st.h.Nodup
  lt : ∀ i ∈ st.h, i < n
  ok : st.ok = true

theorem mnnStepF_eq (xs : List (List α)) (ex : List Nat) (st : MnnState α) :
    mnnStepF xs ex st =
      (let k := (dropLast st.d st.h).getD 0
       let h' := st.h.filter (· != k)
       let upd := h'.foldl (removeStep k) (st.mnn, [])
       let items := upd.2.filter fun i => !ex.contains i
       let mnn' := items.foldl (fun t i => t.set i (mnnRefill (dmAt xs i) i h' (t.getD i []))) upd.1
       let res := items.foldl (fun (acc : List (Ext α) × Bool) i =>
           let p := mnnProd (dmAt xs i) (mnn'.getD i [])
           (acc.1.set i (Ext.fin p.1), acc.2 && p.2)) (st.d, st.ok)
       { mnn := mnn', d := res.1, h := h', ok := res.2 }) := rfl

/-- after a removal from at least `M + 2` points every point still has `M` others -/
theorem enough_alive {h : List Nat} (hnd : h.Nodup) {mNb : Nat} (hbig : mNb + 2 ≤ h.length) (k i : Nat) :
    mNb ≤ ((h.filter (· != k)).filter (· != i)).length :=
  (Nat.le_sub_of_add_le hbig).trans (length_filter_ne_ne_ge hnd k i)

/-- **one pass keeps the invariant** as long as enough points stay alive -/
theorem mnn_step_inv (xs : List (List α)) (n mNb : Nat) (ex : List Nat) (st : MnnState α) (hinv : MInv n mNb ex st)
    (hbig : mNb + 2 ≤ st.h.length) :
    MInv n mNb ex (mnnStepF xs ex st) ∧ st.h.length - 1 ≤ (mnnStepF xs ex st).h.length := by
  rw [mnnStepF_eq]
  extract_lets k h' upd items mnn' res
  have hnd' : h'.Nodup := hinv.nodup.filter _
  have hlt' : ∀ i ∈ h', i < n := fun i hi => hinv.lt i (List.mem_filter.mp hi).1
  have hlen' : st.h.length - 1 ≤ h'.length := length_filter_ne_ge hinv.nodup k
  obtain ⟨u1, u2, u3, u4, _⟩ := removeAll_spec n mNb k h' st.mnn [] hinv.len hinv.rows
  have hitem_in : ∀ i ∈ items, i ∈ h' ∧ i ∉ ex := by
    intro i hi
    obtain ⟨hu, hex⟩ := mem_filter_not_contains.mp hi
    exact ⟨(u4 i hu).resolve_left List.not_mem_nil, hex⟩
  obtain ⟨r1, r2, r3, _, r5⟩ := refillAll_spec n mNb (fun i => dmAt xs i) h' hnd' hlt' (enough_alive hinv.nodup hbig k)
    items upd.1 u1 u2
    (fun i hi => hlt' i (hitem_in i hi).1)
  refine ⟨⟨r1, r2, fun i hi hie => ?_, hnd', hlt', ?_⟩, hlen'⟩
  · by_cases hit : i ∈ items
    · exact r3 i hit
    · -- not reported: the row is the one before the pass, which was complete
      have hnu : i ∉ upd.2 := fun h => hit (mem_filter_not_contains.mpr ⟨h, hie⟩)
      apply r5
      rw [u3 i hnu]
      exact hinv.full i (List.mem_filter.mp hi).1 hie
  · exact calcD_ok n mNb (fun i => dmAt xs i) mnn' items st.d st.ok hinv.ok r3

theorem mnn_loop_inv (xs : List (List α)) (n mNb : Nat) (ex : List Nat) :
    ∀ (fuel : Nat) (st : MnnState α), MInv n mNb ex st → mNb + 1 + fuel ≤ st.h.length →
      MInv n mNb ex (mnnLoopF xs ex fuel st) := by
  intro fuel
  induction fuel with
  | zero => exact fun _ h _ => h
  | succ fuel ih =>
    intro st h hb
    obtain ⟨h1, h2⟩ := mnn_step_inv xs n mNb ex st h
      ((Nat.add_le_add_left (Nat.le_add_left 1 fuel) (mNb + 1)).trans hb)
    exact ih _ h1 ((Nat.le_sub_one_of_lt hb).trans h2)

theorem init_mnn_inv (f : List (List α)) (nObj mNb : Nat) (hbig : mNb < f.length) :
    MInv f.length mNb (extremesFirst f nObj) (mnnInitF f nObj mNb) := by
  -- a row of the initial table: entries 1..mNb of a permutation of `range n`
  have hrowfull : ∀ i, i < f.length → RowFull f.length mNb ((mnnInitF f nObj mNb).mnn.getD i []) := by
    intro i hi
    rw [mnnInitF, getD_map_range _ _ hi]
    have hperm := argsort_perm ((List.range f.length).map fun j => dmAt (normalizeCols f nObj) i j)
    rw [List.length_map, List.length_range] at hperm
    refine ⟨_, rfl, ?_, fun v hv => ?_⟩
    · rw [List.length_take, List.length_drop, hperm.length_eq, List.length_range]
      exact Nat.min_eq_left (Nat.le_sub_one_of_lt hbig)
    · exact List.mem_range.mp (hperm.subset (List.mem_of_mem_drop (List.mem_of_mem_take hv)))
  refine ⟨(List.length_map _).trans List.length_range, fun i hi => rowFull_ok (hrowfull i hi),
    fun i hi _ => hrowfull i (List.mem_range.mp hi), List.nodup_range, fun i hi => List.mem_range.mp hi, ?_⟩
  exact calcD_ok f.length mNb (fun i => dmAt (normalizeCols f nObj) i) (mnnInitF f nObj mNb).mnn _ _ true rfl
    fun i hi => hrowfull i (List.mem_range.mp (List.mem_filter.mp hi).1)

/-- the invariant holds when the kernel's loop ends: `n_remove − 1` passes leave more than `mNb` points alive -/
theorem mnn_final_inv (f : List (List α)) (nObj mNb : Nat) (nRemove : Int) (h2 : mNb ≤ nObj) (hbig : mNb < f.length) :
    MInv f.length mNb (extremesFirst f nObj) (mnnLoopF (normalizeCols f nObj) (extremesFirst f nObj)
      (clampRemove nRemove f.length nObj - 1).toNat (mnnInitF f nObj mNb)) := by
  apply mnn_loop_inv _ _ _ _ _ _ (init_mnn_inv f nObj mNb hbig)
  rw [show (mnnInitF f nObj mNb).h = List.range f.length from rfl, List.length_range]
  exact clampRemove_toNat_le nRemove h2 hbig

/-- `calc_mnn` / `calc_2nn`: a front with no more points than neighbours gets `+inf` everywhere; any other goes through
the loop `n_remove − 1` times -/
theorem mnnKernelF_cases {P : List (Ext α) × Bool → Prop} (f : List (List α)) (nObj : Nat) (nRemove : Int) (twonn : Bool)
    (hshort : f.length ≤ (if twonn then 2 else nObj) → P (f.map fun _ => Ext.top, true))
    (hloop : (if twonn then 2 else nObj) < f.length →
      let st := mnnLoopF (normalizeCols f nObj) (extremesFirst f nObj) (clampRemove nRemove f.length nObj - 1).toNat
        (mnnInitF f nObj (if twonn then 2 else nObj))
      P (st.d, st.ok)) : P (mnnKernelF f nObj nRemove twonn) := by
  unfold mnnKernelF
  dsimp only
  by_cases h : f.length ≤ (if twonn then 2 else nObj)
  · rw [if_pos h]; exact hshort h
  · rw [if_neg h]; exact hloop (Nat.lt_of_not_le h)

/-- **C13 (memory safety of the compiled mnn / 2nn kernel, every front, every `n_remove`)**: the flag that records a use
of an unassigned slot stays set. `h2`: no more neighbours than objectives, which is what `n_remove` is clamped by; true of
mnn, and of 2nn with at least two objectives. -/
theorem mnnKernelF_safe (f : List (List α)) (nObj : Nat) (nRemove : Int) (twonn : Bool)
    (h2 : (if twonn then 2 else nObj) ≤ nObj) : (mnnKernelF f nObj nRemove twonn).2 = true :=
  mnnKernelF_cases (P := fun r => r.2 = true) f nObj nRemove twonn (fun _ => rfl) fun hbig =>
    (mnn_final_inv f nObj _ nRemove h2 hbig).ok

/-- every neighbour index the kernel stores is a valid row / column of the distance matrix -/
theorem mnn_indices_valid (f : List (List α)) (nObj : Nat) (nRemove : Int) (twonn : Bool)
    (h2 : (if twonn then 2 else nObj) ≤ nObj) (hbig : (if twonn then 2 else nObj) < f.length) :
    let st := mnnLoopF (normalizeCols f nObj) (extremesFirst f nObj) (clampRemove nRemove f.length nObj - 1).toNat
      (mnnInitF f nObj (if twonn then 2 else nObj))
    ∀ i, i < f.length → ∀ v, some v ∈ st.mnn.getD i [] → v < f.length := by
  intro st i hi v hv
  obtain ⟨vals, z, e, _, hvalid⟩ := (mnn_final_inv f nObj _ nRemove h2 hbig).rows i hi
  rw [show st.mnn.getD i [] = vals.map some ++ List.replicate z none from e] at hv
  rcases List.mem_append.mp hv with hv | hv
  · obtain ⟨w, hw, hwv⟩ := List.mem_map.mp hv
    exact Option.some.inj hwv ▸ hvalid w hw
  · cases (List.mem_replicate.mp hv).2

/-! ### the kernel's values are non-negative or `+inf`, the extremes `+inf`: products of squared distances -/

theorem dmAt_eq (xs : List (List α)) (i j : Nat) : dmAt xs i j = sqDist (xs.getD i []) (xs.getD j []) := by
  unfold dmAt
  by_cases hij : i = j
  · subst hij; rw [if_pos rfl, sqDist_self]
  · rw [if_neg hij]
    dsimp only
    by_cases hlt : i < j
    · simp only [if_pos hlt]
    · simp only [if_neg hlt]
      exact sqDist_comm _ _

theorem dmAt_self (xs : List (List α)) (i : Nat) : dmAt xs i i = 0 := by
  unfold dmAt; rw [if_pos rfl]

theorem dmAt_nonneg (xs : List (List α)) (i j : Nat) : 0 ≤ dmAt xs i j := by
  rw [dmAt_eq]; exact sqDist_nonneg _ _

theorem mnnProd_nonneg (xs : List (List α)) (i : Nat) (row : List (Option Nat)) : 0 ≤ (mnnProd (dmAt xs i) row).1 := by
  refine List.foldlRecOn (motive := fun acc : α × Bool => 0 ≤ acc.1) row _ zero_le_one fun acc h nb _ => ?_
  cases nb with
  | none => exact h
  | some c => exact mul_nonneg h (dmAt_nonneg xs i c)

/-- the two facts the loop keeps about the crowding array whatever the ties: values are non-negative or infinite, and
the extremes stay infinite -/
structure DInv (ex : List Nat) (d : List (Ext α)) : Prop where
  wf : ∀ e ∈ d, WF e
  exTop : ∀ i ∈ ex, d.getD i Ext.top = Ext.top

theorem dinv_of_top (ex : List Nat) (d : List (Ext α)) (h : ∀ e ∈ d, e = Ext.top) : DInv ex d :=
  ⟨fun e he => h e he ▸ trivial, fun i _ => getD_of_forall h rfl i⟩

/-- `c_calc_d` writes products of non-negative distances, and only at items, which are not extremes -/
theorem dinv_calcD (xs : List (List α)) (ex : List Nat) (T : List (List (Option Nat))) (items : List Nat)
    (d : List (Ext α)) (ok : Bool) (h : DInv ex d) (hitems : ∀ i ∈ items, i ∉ ex) :
    DInv ex (items.foldl (fun (acc : List (Ext α) × Bool) i =>
      let p := mnnProd (dmAt xs i) (T.getD i [])
      (acc.1.set i (Ext.fin p.1), acc.2 && p.2)) (d, ok)).1 := by
  rw [foldl_set_flag]
  refine ⟨forall_mem_foldl_set (fun i => Ext.fin (mnnProd (dmAt xs i) (T.getD i [])).1)
    (fun i => mnnProd_nonneg xs i _) items d h.wf, fun i hi => ?_⟩
  rw [getD_foldl_set, if_neg fun hh => hitems i hh.1 hi]
  exact h.exTop i hi

theorem dinv_step (xs : List (List α)) (ex : List Nat) (st : MnnState α) (h : DInv ex st.d) :
    DInv ex (mnnStepF xs ex st).d := by
  rw [mnnStepF_eq]
  exact dinv_calcD xs ex _ _ st.d st.ok h fun i hi => (mem_filter_not_contains.mp hi).2

theorem dinv_loop (xs : List (List α)) (ex : List Nat) : ∀ (fuel : Nat) (st : MnnState α), DInv ex st.d →
    DInv ex (mnnLoopF xs ex fuel st).d := by
  intro fuel
  induction fuel with
  | zero => exact fun _ h => h
  | succ fuel ih => exact fun st h => ih _ (dinv_step xs ex st h)

theorem mnnKernelF_dinv (f : List (List α)) (nObj : Nat) (nRemove : Int) (twonn : Bool) :
    DInv (extremesFirst f nObj) (mnnKernelF f nObj nRemove twonn).1 :=
  mnnKernelF_cases (P := fun r => DInv _ r.1) f nObj nRemove twonn
    (fun _ => dinv_of_top _ _ fun e he => by obtain ⟨_, _, rfl⟩ := List.mem_map.mp he; rfl)
    fun _ => dinv_loop _ _ _ _ (dinv_calcD _ _ _ _ _ true (dinv_of_top _ _ fun e he => (List.mem_replicate.mp he).2)
      fun i hi => (mem_filter_not_contains.mp hi).2)

/-- **C13 (compiled mnn / 2nn kernel, every front — ties and duplicates included — and every `n_remove`)**: every value
is non-negative or `+inf` (never NaN: the model's `Ext` has no such value and the product is of non-negative distances) -/
theorem mnnKernelF_wellformed (f : List (List α)) (nObj : Nat) (nRemove : Int) (twonn : Bool) :
    ∀ e ∈ (mnnKernelF f nObj nRemove twonn).1, WF e :=
  (mnnKernelF_dinv f nObj nRemove twonn).wf

/-- … and the first holder of the minimum and of the maximum of every objective keeps `+inf` -/
theorem mnnKernelF_extremes_top (f : List (List α)) (nObj : Nat) (nRemove : Int) (twonn : Bool) :
    ∀ i ∈ extremesFirst f nObj, (mnnKernelF f nObj nRemove twonn).1.getD i Ext.top = Ext.top :=
  (mnnKernelF_dinv f nObj nRemove twonn).exTop

end C13
end Pymoode
