/-
C13 / C14: **the compiled mnn / 2nn kernel computes the published definition** on every front whose
rows of the distance matrix have no ties (`NoTies`), for every number of removals, with no more neighbours than objectives:

  `mnnKernelF f nObj nRemove twonn = (mnnFallback f nObj nRemove twonn, true)`.

`mnnFallback` is the pure-Python engine and at the same time the definition ("remove the most crowded point,
re-compute, repeat"). The simulation (`Sim`): for every live non-extreme point the row of the kernel's neighbour table
lists the `M` nearest live points in ascending order of distance (`NearRow`). Taking the pruned point out of the rows
that list it (`c_get_calc_items`) and re-inserting every live candidate (`c_calc_mnn_iter`) re-establishes that; a row
that did not list the pruned point holds the `M` nearest of the smaller live set already. The product over such a row
is the definition's value, the product of the order statistics 1..M of the point's distance row (`cMnn_eq_prod`), so
the array `c_calc_d` updates is the definition's.

`NoTies` (for every point, the squared distances to all points, itself included, are pairwise different; so no
duplicate points) is exactly what excludes known finding F9, a neighbour listed twice on fronts with tied distances.
A front without distance ties is exhibited in `Witnesses.lean`.
-/
import PymoodeProofs.Mnn.Safety
import PymoodeProofs.Metrics.MnnPruning

set_option linter.unusedSectionVars false

namespace Pymoode
namespace C13

variable {α : Type} [Field α] [LinearOrder α] [IsStrictOrderedRing α] [Inhabited α]

/-- no row of the distance matrix has two equal entries (the point's own zero included) -/
def NoTies (xs : List (List α)) (n : Nat) : Prop :=
  ∀ i j j', i < n → j < n → j' < n → j ≠ j' → dmAt xs i j ≠ dmAt xs i j'

/-! ### the definition's side: the product of the order statistics 1..M of a distance row -/

theorem foldl_fin_prod (dist : Nat → α) : ∀ (vals : List Nat) (a : α),
    (vals.map fun c => Ext.fin (dist c)).foldl extMul (Ext.fin a) = Ext.fin (vals.foldl (fun a c => a * dist c) a) :=
  fun _ _ => List.foldl_map.trans (List.foldl_hom Ext.fin fun _ _ => rfl)

/-- **the crowding the definition assigns to a live point is the product of the distances to its `M` nearest live
points** (no ties in the point's distance row) -/
theorem cMnn_eq_prod (x : List (List α)) (mNb n : Nat) (live : List Nat) (i : Nat) (hi : i < n) (hil : i ∈ live)
    (hinj : ∀ a b, a < n → b < n → a ≠ b → dmAt x i a ≠ dmAt x i b)
    (vals : List Nat) (hnear : IsNearest (dmAt x i) mNb i live vals) (hvn : ∀ v ∈ vals, v < n) :
    C15.cMnn x mNb n live i = Ext.fin (vals.foldl (fun a c => a * dmAt x i c) 1) := by
  obtain ⟨hlen, hn⟩ := hnear
  -- the distance row of the definition; on live points it is `D[i, ·]`
  set g : Nat → Ext α := fun j =>
    if live.contains j then Ext.fin (sqDist (x.getD i []) (x.getD j [])) else Ext.top with hg
  have hgd : ∀ j ∈ live, g j = Ext.fin (dmAt x i j) := fun j hj => by
    rw [hg, dmAt_eq]; exact if_pos (List.contains_iff_mem.mpr hj)
  have hvals_live : ∀ v ∈ vals, v ∈ live ∧ v ≠ i := fun v hv => mem_filter_ne.mp (hn.sub v hv)
  -- the row is a permutation of the point itself, its nearest points, and the rest
  have hnd : (i :: vals).Nodup := List.nodup_cons.mpr ⟨fun h => (hvals_live i h).2 rfl, hn.sorted.nodup⟩
  obtain ⟨l', hl', hsub⟩ := List.subperm_of_subset hnd (l₂ := List.range n) fun a ha => List.mem_range.mpr
    ((List.mem_cons.mp ha).elim (· ▸ hi) (hvn a))
  obtain ⟨rest, hrest⟩ := hsub.exists_perm_append
  have hperm : (List.range n).Perm ((i :: vals) ++ rest) := hrest.trans (hl'.append_right rest)
  have hgv : (i :: vals).map g = (i :: vals).map fun c => Ext.fin (dmAt x i c) :=
    List.map_congr_left fun c hc => hgd c ((List.mem_cons.mp hc).elim (· ▸ hil) fun h => (hvals_live c h).1)
  -- the first part is ascending, beginning with the point's own zero …
  have hasc : ((i :: vals).map fun c => Ext.fin (dmAt x i c)).Pairwise fun a b => extLe a b = true := by
    rw [List.pairwise_map, List.pairwise_cons]
    refine ⟨fun c _ => ?_, hn.sorted.imp fun hab => (extLe_fin_fin _ _).mpr (le_of_lt hab)⟩
    rw [extLe_fin_fin, dmAt_self]
    exact dmAt_nonneg x i c
  -- … and lies below the rest: dead points count as `+inf`, live ones are not nearer than the nearest
  have hbelow : ∀ a ∈ (i :: vals).map (fun c => Ext.fin (dmAt x i c)), ∀ b ∈ rest.map g, extLe a b = true := by
    intro a ha b hb
    obtain ⟨c, hc, rfl⟩ := List.mem_map.mp ha
    obtain ⟨j, hj, rfl⟩ := List.mem_map.mp hb
    have hjn : j ∉ i :: vals := fun h => (List.nodup_append.mp (hperm.nodup_iff.mp List.nodup_range)).2.2 j h j hj rfl
    rw [List.mem_cons, not_or] at hjn
    by_cases hjl : j ∈ live
    · rw [hgd j hjl, extLe_fin_fin]
      rcases List.mem_cons.mp hc with rfl | hc
      · rw [dmAt_self]; exact dmAt_nonneg x c j
      · exact le_of_lt ((hn.far j (mem_filter_ne.mpr ⟨hjl, hjn.1⟩) hjn.2).2 c hc)
    · rw [show g j = Ext.top from if_neg (mt List.contains_iff_mem.mp hjl)]
      exact extLe_top _
  have heq := mergeSort_eq_append (l := (List.range n).map g) extLe_trans extLe_total extLe_antisymm
    (by rw [← hgv, ← List.map_append]; exact hperm.map g) hasc hbelow
  rw [C15.cMnn, nnProduct_eq, ← hg, heq, List.map_cons, List.cons_append, List.drop_one, List.tail_cons,
    List.take_left' (by rw [List.length_map, hlen]), if_neg (by rw [List.length_map, hlen]; exact lt_irrefl _)]
  exact foldl_fin_prod (dmAt x i) vals 1

theorem rowQ_full (k : Nat) {T : List (List (Option Nat))} {i : Nat} {vals : List Nat}
    (e : T.getD i [] = vals.map some) (hnd : vals.Nodup) :
    rowQ k T i = if k ∈ vals then ((vals.erase k).map some ++ [none], true) else (vals.map some, false) := by
  rw [rowQ, e, ← shape_zero vals]
  split
  · next hk =>
    exact rowRemove_erase k vals 0 hnd hk _ 0 false (Nat.zero_le _)
      (by simpa using List.idxOf_lt_length_iff.mpr hk)
  · next hk => exact rowRemove_notin k vals 0 hk _ 0 false

/-- `removeAll_spec` in exact form, for a duplicate-free list of rows -/
theorem removeAll_get (k : Nat) : ∀ (l : List Nat) (T : List (List (Option Nat))) (S : List Nat), l.Nodup →
    (l.foldl (removeStep k) (T, S)).1.length = T.length ∧
    (∀ i, (l.foldl (removeStep k) (T, S)).1.getD i [] =
      if i ∈ l ∧ (rowQ k T i).2 = true then (rowQ k T i).1 else T.getD i []) ∧
    (∀ i, i ∈ (l.foldl (removeStep k) (T, S)).2 ↔ i ∈ S ∨ (i ∈ l ∧ (rowQ k T i).2 = true)) := by
  intro l
  induction l with
  | nil => exact fun T S _ => ⟨rfl, fun i => by simp, fun i => by simp⟩
  | cons a t ih =>
    intro T S hnd
    rw [List.nodup_cons] at hnd
    obtain ⟨s1, s2, s3⟩ := removeStep_get k T S a
    rw [List.foldl_cons]
    generalize removeStep k (T, S) a = acc at s1 s2 s3 ⊢
    obtain ⟨h1, h2, h3⟩ := ih acc.1 acc.2 hnd.2
    -- the rows of `t` are as they were before the step, because `a ∉ t`
    have hq : ∀ i, i ≠ a → rowQ k acc.1 i = rowQ k T i := fun i hia => by
      rw [rowQ, s2 i, if_neg fun h => hia h.1]; rfl
    refine ⟨h1.trans s1, fun i => ?_, fun i => ?_⟩
    · rw [h2 i, s2 i]
      by_cases hia : i = a
      · subst hia
        simp only [hnd.1, false_and, if_false, true_and, List.mem_cons, true_or]
      · simp only [hq i hia, hia, false_and, if_false, List.mem_cons, false_or]
    · rw [h3 i, s3 i]
      by_cases hia : i = a
      · subst hia
        simp only [hnd.1, false_and, or_false, true_and, List.mem_cons]
      · simp only [hq i hia, hia, false_and, or_false, List.mem_cons, false_or]

/-- a row that `c_calc_mnn_iter` can start from: ascending, live members other than the row's own point -/
def PreRow (xs : List (List α)) (mNb : Nat) (live : List Nat) (i : Nat) (row : List (Option Nat)) : Prop :=
  ∃ (vals : List Nat) (z : Nat), row = vals.map some ++ List.replicate z none ∧ vals.length + z = mNb ∧
    SortedBy (dmAt xs i) vals ∧ ∀ v ∈ vals, v ∈ live ∧ v ≠ i

/-- a row that lists the `mNb` nearest live points in ascending order of distance -/
def NearRow (xs : List (List α)) (mNb : Nat) (live : List Nat) (i : Nat) (row : List (Option Nat)) : Prop :=
  ∃ vals : List Nat, row = vals.map some ∧ IsNearest (dmAt xs i) mNb i live vals

theorem nearRow_pre {xs : List (List α)} {mNb : Nat} {live : List Nat} {i : Nat} {row : List (Option Nat)}
    (h : NearRow xs mNb live i row) : PreRow xs mNb live i row := by
  obtain ⟨vals, e, hn⟩ := h
  exact ⟨vals, 0, e.trans (shape_zero vals).symm, hn.1, hn.2.sorted, isNearest_mem hn⟩

/-- **`c_get_calc_items` on a row of nearest points** when `r` leaves the live set: a row that lists `r` is reported,
and what is left of it is a row `c_calc_mnn_iter` can start from; a row that does not list `r` is not reported and
lists the nearest points of the smaller live set already -/
theorem rowQ_nearRow {xs : List (List α)} {mNb : Nat} {live : List Nat} {i : Nat} {T : List (List (Option Nat))}
    (r : Nat) (h : NearRow xs mNb live i (T.getD i [])) :
    ((rowQ r T i).2 = true → PreRow xs mNb (live.filter (· != r)) i (rowQ r T i).1) ∧
    (¬ (rowQ r T i).2 = true → NearRow xs mNb (live.filter (· != r)) i (T.getD i [])) := by
  obtain ⟨vals, e, hn⟩ := h
  have hnd := hn.2.sorted.nodup
  rw [rowQ_full r e hnd]
  by_cases hr : r ∈ vals
  · rw [if_pos hr]
    refine ⟨fun _ => ⟨vals.erase r, 1, rfl, ?_, hn.2.sorted.sublist List.erase_sublist, fun v hv => ?_⟩,
      fun h => absurd rfl h⟩
    · rw [List.length_erase_of_mem hr, ← hn.1]
      exact Nat.sub_add_cancel (List.length_pos_of_mem hr)
    · obtain ⟨hvr, hvv⟩ := hnd.mem_erase_iff.mp hv
      obtain ⟨hvl, hvi⟩ := isNearest_mem hn v hvv
      exact ⟨mem_filter_ne.mpr ⟨hvl, hvr⟩, hvi⟩
  · rw [if_neg hr]
    exact ⟨fun h => Bool.noConfusion h, fun _ => ⟨vals, e, isNearest_filter hn r hr⟩⟩

/-- `c_calc_mnn_iter` over the items: every item's row becomes the list of its nearest live points -/
theorem refillAll_near (xs : List (List α)) (n mNb : Nat) (hnt : NoTies xs n) (h : List Nat) (hnd : h.Nodup)
    (hlt : ∀ j ∈ h, j < n) (hcount : ∀ i, mNb ≤ (h.filter (· != i)).length) :
    ∀ (items : List Nat) (T : List (List (Option Nat))), T.length = n →
      (∀ i ∈ items, i < n ∧ PreRow xs mNb h i (T.getD i [])) →
      (items.foldl (fun t i => t.set i (mnnRefill (dmAt xs i) i h (t.getD i []))) T).length = n ∧
      (∀ i ∈ items, NearRow xs mNb h i
        ((items.foldl (fun t i => t.set i (mnnRefill (dmAt xs i) i h (t.getD i []))) T).getD i [])) ∧
      (∀ i, i ∉ items →
        (items.foldl (fun t i => t.set i (mnnRefill (dmAt xs i) i h (t.getD i []))) T).getD i [] = T.getD i []) ∧
      (∀ i, i < n → NearRow xs mNb h i (T.getD i []) → NearRow xs mNb h i
        ((items.foldl (fun t i => t.set i (mnnRefill (dmAt xs i) i h (t.getD i []))) T).getD i [])) :=
  fun items T hT hitems => by
    -- refilling a row that `c_calc_mnn_iter` can start from gives the nearest live points, because enough are alive
    have hnear : ∀ i ∈ items, ∀ r, PreRow xs mNb h i r → NearRow xs mNb h i (mnnRefill (dmAt xs i) i h r) := by
      rintro i hi _ ⟨vals, z, rfl, hl, hs, hsub⟩
      have hi := (hitems i hi).1
      obtain ⟨vals', e', hn⟩ := refill_isNearest (dmAt xs i) n (fun a b ha hb hab => hnt i a b hi ha hb hab) i h hnd hlt
        vals z hs hsub (hl.le.trans (hcount i))
      exact ⟨vals', e', hl ▸ hn⟩
    -- invariant of row `i`: an item's row can start `c_calc_mnn_iter`; a row of nearest points stays one
    obtain ⟨h1, h2, h3, h4⟩ := foldl_rows_inv (fun i => mnnRefill (dmAt xs i) i h) []
      (fun i r => (i ∈ items → PreRow xs mNb h i r) ∧ (i < n → NearRow xs mNb h i (T.getD i []) → NearRow xs mNb h i r))
      items T (fun i hi r hr => ⟨fun _ => nearRow_pre (hnear i hi r (hr.1 hi)), fun _ _ => hnear i hi r (hr.1 hi)⟩)
      (fun i => ⟨fun hi => (hitems i hi).2, fun _ hn => hn⟩)
    refine ⟨h1.trans hT, fun i hi => ?_, h3, fun i hin hn => (h2 i).2 hin hn⟩
    obtain ⟨r, hr, e⟩ := h4 i hi (hT ▸ (hitems i hi).1)
    exact e ▸ hnear i hi r (hr.1 hi)

/-! ### the simulation -/

/-- the kernel's state and the definition's state agree, and the neighbour table lists nearest live points -/
structure Sim (xs : List (List α)) (n mNb : Nat) (ex : List Nat) (st : MnnState α) (d : List (Ext α))
    (live : List Nat) : Prop where
  hh : st.h = live
  hd : st.d = d
  len : st.mnn.length = n
  dlen : d.length = n
  nodup : live.Nodup
  lt : ∀ i ∈ live, i < n
  near : ∀ i ∈ live, i ∉ ex → NearRow xs mNb live i (st.mnn.getD i [])
  exTop : ∀ i ∈ ex, i < n → d.getD i Ext.top = Ext.top
  vals : ∀ i ∈ live, i ∉ ex → d.getD i Ext.top = Ext.fin (mnnProd (dmAt xs i) (st.mnn.getD i [])).1

/-- over a row of nearest live points the kernel's product is the definition's value -/
theorem nearRow_prod {xs : List (List α)} {n mNb : Nat} (hnt : NoTies xs n) {live : List Nat} (lt : ∀ i ∈ live, i < n)
    {i : Nat} (hi : i ∈ live) {row : List (Option Nat)} (h : NearRow xs mNb live i row) :
    Ext.fin (mnnProd (dmAt xs i) row).1 = C15.cMnn xs mNb n live i := by
  obtain ⟨vals, rfl, hn⟩ := h
  rw [mnnProd_full]
  exact (cMnn_eq_prod xs mNb n live i (lt i hi) hi (fun a b ha hb hab => hnt i a b (lt i hi) ha hb hab) vals hn
    fun v hv => lt v (isNearest_mem hn v hv).1).symm

/-- a state whose table lists nearest live points and whose array is the definition's recomputation simulates it
(what `sim_step` and `init_sim` share) -/
theorem sim_of_scratch (xs : List (List α)) (n mNb : Nat) (hnt : NoTies xs n) (ex : List Nat) (st : MnnState α)
    (old : List (Ext α)) (len : st.mnn.length = n) (nodup : st.h.Nodup) (lt : ∀ i ∈ st.h, i < n)
    (near : ∀ i ∈ st.h, i ∉ ex → NearRow xs mNb st.h i (st.mnn.getD i []))
    (hd : st.d = scratchArr ex st.h n (C15.cMnn xs mNb n st.h) old) :
    Sim xs n mNb ex st (mnnScratch xs st.h mNb ex n old) st.h := by
  rw [C15.mnnScratch_eq_scratchArr, ← hd]
  refine ⟨rfl, rfl, len, hd ▸ scratchArr_length, nodup, lt, near, fun i hie hi => ?_, fun i hi hie => ?_⟩
  · rw [hd, scratchArr_getD hi, if_pos hie]
  · rw [hd, scratchArr_getD (lt i hi), if_neg hie, if_pos hi, nearRow_prod hnt lt hi (near i hi hie)]

/-- **one pass of the kernel's loop is one step of the definition** -/
theorem sim_step (xs : List (List α)) (n mNb : Nat) (hnt : NoTies xs n) (ex : List Nat) (st : MnnState α)
    (d : List (Ext α)) (live : List Nat) (hsim : Sim xs n mNb ex st d live) (hbig : mNb + 2 ≤ live.length)
    (r : Nat) (hr : dropLast d live = some r) :
    Sim xs n mNb ex (mnnStepF xs ex st) (mnnScratch xs (live.filter (· != r)) mNb ex n d) (live.filter (· != r)) := by
  -- the kernel drops the same point
  have hk : (dropLast st.d st.h).getD 0 = r := by rw [hsim.hd, hsim.hh, hr]; rfl
  rw [mnnStepF_eq, hk, hsim.hh, hsim.hd]
  dsimp only
  set live' := live.filter (· != r)
  have hnd' : live'.Nodup := hsim.nodup.filter _
  have hsub' : ∀ i ∈ live', i ∈ live := fun i hi => (mem_filter_ne.mp hi).1
  have hlt' : ∀ i ∈ live', i < n := fun i hi => hsim.lt i (hsub' i hi)
  -- `c_get_calc_items` takes `r` out of the rows that list it and reports them
  obtain ⟨g1, g2, g3⟩ := removeAll_get r live' st.mnn [] hnd'
  have hrow := fun i (hi : i ∈ live') (hie : i ∉ ex) => rowQ_nearRow r (hsim.near i (hsub' i hi) hie)
  generalize live'.foldl (removeStep r) (st.mnn, []) = upd at g1 g2 g3 ⊢
  generalize hitems : upd.2.filter (fun i => !ex.contains i) = items
  have hitem_iff : ∀ i, i ∈ items ↔ i ∈ live' ∧ (rowQ r st.mnn i).2 = true ∧ i ∉ ex := by
    intro i
    rw [← hitems, mem_filter_not_contains, g3 i, or_iff_right List.not_mem_nil, and_assoc]
  -- `c_calc_mnn_iter` completes the reported rows to the nearest points of the smaller live set
  obtain ⟨r1, r2, r3, _⟩ := refillAll_near xs n mNb hnt live' hnd' hlt' (enough_alive hsim.nodup hbig r) items upd.1
    (g1.trans hsim.len) fun i hi => by
      obtain ⟨hil, hq, hie⟩ := (hitem_iff i).mp hi
      rw [g2 i, if_pos ⟨hil, hq⟩]
      exact ⟨hlt' i hil, (hrow i hil hie).1 hq⟩
  generalize items.foldl (fun t i => t.set i (mnnRefill (dmAt xs i) i live' (t.getD i []))) upd.1 = mnn'
    at r1 r2 r3 ⊢
  have hnew : ∀ i ∈ live', i ∉ ex → NearRow xs mNb live' i (mnn'.getD i []) ∧
      (i ∉ items → mnn'.getD i [] = st.mnn.getD i []) := by
    intro i hi hie
    by_cases hit : i ∈ items
    · exact ⟨r2 i hit, fun h => absurd hit h⟩
    · -- a row that was not reported is the row it was, and did not list `r`
      have hq : ¬ (rowQ r st.mnn i).2 = true := fun h => hit ((hitem_iff i).mpr ⟨hi, h, hie⟩)
      have hsame : mnn'.getD i [] = st.mnn.getD i [] := by rw [r3 i hit, g2 i, if_neg fun h => hq h.2]
      exact ⟨hsame ▸ (hrow i hi hie).2 hq, fun _ => hsame⟩
  -- `c_calc_d` writes the products over the reported rows; the other entries hold the products over unchanged rows
  rw [foldl_set_flag]
  refine sim_of_scratch xs n mNb hnt ex _ d r1 hnd' hlt' (fun i hi hie => (hnew i hi hie).1) ?_
  refine foldl_set_eq_scratchArr hsim.dlen (fun i hi => ⟨((hitem_iff i).mp hi).1, ((hitem_iff i).mp hi).2.2⟩)
    (fun i hi => nearRow_prod hnt hlt' ((hitem_iff i).mp hi).1 (r2 i hi)) hsim.exTop fun i hi hie hit _ => ?_
  rw [hsim.vals i (hsub' i hi) hie, ← (hnew i hi hie).2 hit]
  exact nearRow_prod hnt hlt' hi (hnew i hi hie).1

/-- the table `np.argpartition(D, range(1, M+1))[:, 1:M+1]` starts with: each row lists the `M` nearest points -/
theorem init_nearRow (xs : List (List α)) (n mNb : Nat) (hnt : NoTies xs n) (hbig : mNb < n) (i : Nat) (hi : i < n) :
    NearRow xs mNb (List.range n) i
      ((((argsortStable ((List.range n).map fun j => dmAt xs i j)).drop 1).take mNb).map some) := by
  set A := argsortStable ((List.range n).map fun j => dmAt xs i j)
  have hperm : A.Perm (List.range n) := by simpa using argsort_perm ((List.range n).map fun j => dmAt xs i j)
  have hmemA : ∀ a, a ∈ A ↔ a < n := fun a => by rw [hperm.mem_iff, List.mem_range]
  -- ascending and duplicate-free, so strictly ascending on a row without ties
  have hsortA : SortedBy (dmAt xs i) A := by
    have hle := List.pairwise_map.mp (argsort_sorted ((List.range n).map fun j => dmAt xs i j))
    refine (hle.and (hperm.nodup_iff.mpr List.nodup_range)).imp_of_mem fun {a b} ha hb hab => ?_
    have han := (hmemA a).mp ha
    have hbn := (hmemA b).mp hb
    rw [getD_map_range _ _ han, getD_map_range _ _ hbn] at hab
    exact lt_of_le_of_ne hab.1 (hnt i a b hi han hbn hab.2)
  obtain ⟨hd, tl, hAc⟩ := List.exists_cons_of_ne_nil (List.ne_nil_of_mem ((hmemA i).mpr hi))
  rw [hAc] at hsortA hperm hmemA ⊢
  obtain ⟨hhd, htl⟩ := List.pairwise_cons.mp hsortA
  -- the point itself, at distance 0, comes first
  obtain rfl : hd = i := by
    rcases List.mem_cons.mp ((hmemA i).mpr hi) with h | h
    · exact h.symm
    · exact absurd (dmAt_nonneg xs i hd) (not_le.mpr (dmAt_self xs i ▸ hhd i h))
  refine ⟨tl.take mNb, rfl, isNearest_take mNb htl (fun v => ?_) ?_⟩
  · rw [List.mem_range, ← hmemA v, List.mem_cons]
    exact ⟨fun hv => ⟨Or.inr hv, fun e => lt_irrefl _ (e ▸ hhd v hv)⟩, fun hv => hv.1.resolve_left hv.2⟩
  · have hlen : tl.length + 1 = n := by simpa using hperm.length_eq
    exact Nat.le_of_lt_succ (hbig.trans_eq hlen.symm)

theorem init_sim (f : List (List α)) (nObj mNb : Nat) (hbig : mNb < f.length)
    (hnt : NoTies (normalizeCols f nObj) f.length) :
    Sim (normalizeCols f nObj) f.length mNb (extremesFirst f nObj) (mnnInitF f nObj mNb)
      (mnnScratch (normalizeCols f nObj) (List.range f.length) mNb (extremesFirst f nObj) f.length
        (f.map fun _ => Ext.top)) (List.range f.length) := by
  have hd : (mnnInitF f nObj mNb).d = _ := congrArg Prod.fst (foldl_set_flag _ _ _ _ true)
  have hlt : ∀ i ∈ List.range f.length, i < f.length := fun i hi => List.mem_range.mp hi
  have hnear : ∀ i ∈ List.range f.length, i ∉ extremesFirst f nObj →
      NearRow (normalizeCols f nObj) mNb (List.range f.length) i ((mnnInitF f nObj mNb).mnn.getD i []) := fun i hi _ => by
    rw [show (mnnInitF f nObj mNb).mnn.getD i [] = _ from getD_map_range _ _ (hlt i hi)]
    exact init_nearRow _ _ mNb hnt hbig i (hlt i hi)
  refine sim_of_scratch _ _ mNb hnt _ (mnnInitF f nObj mNb) _ ((List.length_map _).trans List.length_range)
    List.nodup_range hlt hnear ?_
  rw [hd, List.map_const']
  -- every live non-extreme point is an item
  exact foldl_set_eq_scratchArr List.length_replicate (fun i hi => mem_filter_not_contains.mp hi)
    (fun i hi => nearRow_prod hnt hlt (mem_filter_not_contains.mp hi).1
      (hnear i (mem_filter_not_contains.mp hi).1 (mem_filter_not_contains.mp hi).2))
    (fun i _ hi => List.getD_replicate _ hi) fun i hi hie hit _ => absurd (mem_filter_not_contains.mpr ⟨hi, hie⟩) hit

theorem loop_sim_mnn (xs : List (List α)) (n mNb : Nat) (hnt : NoTies xs n) (ex : List Nat) :
    ∀ (fuel : Nat) (st : MnnState α) (d : List (Ext α)) (live : List Nat), Sim xs n mNb ex st d live →
      mNb + 1 + fuel ≤ live.length →
      (mnnLoopF xs ex fuel st).d = pruneLoop (fun lv old => mnnScratch xs lv mNb ex n old) fuel live d := by
  intro fuel
  induction fuel with
  | zero => exact fun st d live h _ => h.hd
  | succ fuel ih =>
    intro st d live h hb
    obtain ⟨r, hr⟩ := dropLast_isSome d (List.ne_nil_of_length_pos ((Nat.succ_pos _).trans_le hb))
    rw [pruneLoop_succ _ fuel hr, mnnLoopF]
    exact ih _ _ _ (sim_step xs n mNb hnt ex st d live h
        ((Nat.add_le_add_left (Nat.le_add_left 1 fuel) (mNb + 1)).trans hb) r hr)
      ((Nat.le_sub_one_of_lt hb).trans (length_filter_ne_ge h.nodup r))

/-- **C13 / C14 (the compiled mnn / 2nn kernel computes the definition)**, as said at the head of the file; `h2`: no more
neighbours than objectives, as in `mnnKernelF_safe` -/
theorem mnnKernelF_refines (f : List (List α)) (nObj : Nat) (nRemove : Int) (twonn : Bool)
    (h2 : (if twonn then 2 else nObj) ≤ nObj) (hnt : NoTies (normalizeCols f nObj) f.length) :
    mnnKernelF f nObj nRemove twonn = (mnnFallback f nObj nRemove twonn, true) := by
  refine Prod.ext ?_ (mnnKernelF_safe f nObj nRemove twonn h2)
  refine mnnKernelF_cases (P := fun r => r.1 = mnnFallback f nObj nRemove twonn) f nObj nRemove twonn
    (fun hle => (mnnFallback_of_le f nObj nRemove twonn hle).symm) fun hbig => Eq.trans ?_ (mnnFallback_eq f nObj nRemove twonn hbig).symm
  refine loop_sim_mnn (normalizeCols f nObj) f.length _ hnt (extremesFirst f nObj) _ _ _ _
    (init_sim f nObj _ hbig hnt) ?_
  rw [List.length_range]
  exact clampRemove_toNat_le nRemove h2 hbig

/-- **C14 (engine independence of mnn / 2nn)**: the values in `mnnKernelF_refines` -/
theorem mnn_engine_independent (f : List (List α)) (nObj : Nat) (nRemove : Int) (twonn : Bool)
    (h2 : (if twonn then 2 else nObj) ≤ nObj) (hnt : NoTies (normalizeCols f nObj) f.length) :
    (mnnKernelF f nObj nRemove twonn).1 = mnnFallback f nObj nRemove twonn := by
  rw [mnnKernelF_refines f nObj nRemove twonn h2 hnt]

/-- `C15.mnnFallback_stale_le_live` for the array the compiled kernel returns (through the refinement theorem); like it,
about *some* set `live`, which the statement does not tie to the loop (`C15.pruneLive_inv` does) -/
theorem mnnKernel_stale_le_live (f : List (List α)) (nObj : Nat) (nRemove : Int) (twonn : Bool)
    (h2 : (if twonn then 2 else nObj) ≤ nObj) (hnt : NoTies (normalizeCols f nObj) f.length)
    (hbig : (if twonn then 2 else nObj) < f.length) :
    ∃ live : List Nat, (∀ i ∈ live, i < f.length) ∧
      ∀ k, k < f.length → live.contains k = false → ∀ i, i < f.length → live.contains i = true →
        extLe ((mnnKernelF f nObj nRemove twonn).1.getD k Ext.top)
              ((mnnKernelF f nObj nRemove twonn).1.getD i Ext.top) = true := by
  rw [mnn_engine_independent f nObj nRemove twonn h2 hnt]
  exact C15.mnnFallback_stale_le_live f nObj nRemove twonn hbig

end C13
end Pymoode
