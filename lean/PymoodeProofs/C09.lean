/-
C09  Parent selection yields valid, distinct parents in documented roles.
Partial-correctness statements over finite recorded draw streams: "if the re-selection loops
finished on the recorded `choice` vectors, the parent matrix satisfies …".
-/
import PymoodeModel.Selection
import PymoodeProofs.Lib.List

namespace Pymoode
namespace C09

/-! ### one column -/

theorem needRe_eq_false {t x : Nat} {p : List Nat} : needRe t p x = false ↔ x ≠ t ∧ x ∉ p := by
  simp [needRe]

/-- exit condition of the `while np.any(reselect)` loop, spelled out -/
theorem noRe_spec : ∀ (tp : List (Nat × List Nat)) (col : List Nat), noRe tp col = true →
    ∀ i (h1 : i < tp.length) (h2 : i < col.length), col[i] ≠ tp[i].1 ∧ col[i] ∉ tp[i].2
  | (t, p) :: tps, x :: xs, h, i, h1, h2 => by
      rw [noRe, Bool.and_eq_true, Bool.not_eq_true', needRe_eq_false] at h
      cases i with
      | zero => exact h.1
      | succ i => exact noRe_spec tps xs h.2 i _ _

theorem redraw_length (tp : List (Nat × List Nat)) (col e : List Nat) (h : tp.length = col.length) :
    (redraw tp col e).length = col.length := by
  fun_induction redraw tp col e with
  | case1 t p tps x xs _ v vs ih | case2 t p tps x xs _ ih | case3 t p tps x xs e _ ih =>
    exact congrArg Nat.succ (ih (Nat.succ.inj h))
  | case4 tp col e hne =>
    -- lists of equal length that are not both non-empty are both empty
    match tp, col, h, hne with
    | [], [], _, _ => rfl
    | _ :: _, _ :: _, _, hne => exact (hne _ _ _ _ _ rfl rfl).elim

theorem redraw_mem (tp : List (Nat × List Nat)) (col e : List Nat) : ∀ y ∈ redraw tp col e, y ∈ col ∨ y ∈ e := by
  fun_induction redraw tp col e with
  | case1 t p tps x xs _ v vs ih =>
    exact List.forall_mem_cons.mpr ⟨Or.inr List.mem_cons_self,
      fun y hy => (ih y hy).imp (List.mem_cons_of_mem x) (List.mem_cons_of_mem v)⟩
  | case2 t p tps x xs _ ih | case3 t p tps x xs e _ ih =>
    exact List.forall_mem_cons.mpr ⟨Or.inl List.mem_cons_self, fun y hy => (ih y hy).imp_left (List.mem_cons_of_mem x)⟩
  | case4 => exact fun _ h => nomatch h

/-- what the `while np.any(reselect)` loop ends with; the suffix clause lets `fillCols_spec` thread the stream -/
theorem fillCol_inv (tp : List (Nat × List Nat)) (col : List Nat) (evs : List (List Nat)) (c : List Nat)
    (rest : List (List Nat)) :
    fillCol tp col evs = some (c, rest) → tp.length = col.length →
    noRe tp c = true ∧ c.length = col.length ∧ (∀ y ∈ c, y ∈ col ∨ ∃ e ∈ evs, y ∈ e) ∧
      rest <:+ evs := by
  fun_induction fillCol tp col evs with
  | case1 col hn | case3 col e es hn =>
    rintro ⟨⟩ _
    exact ⟨hn, rfl, fun y hy => Or.inl hy, List.suffix_rfl⟩
  | case2 => rintro ⟨⟩
  | case4 col e es hn ih =>
    intro h hl
    obtain ⟨h1, h2, h3, h4⟩ := ih h (hl.trans (redraw_length tp col e hl).symm)
    refine ⟨h1, h2.trans (redraw_length tp col e hl), fun y hy => ?_, h4.trans (List.suffix_cons e es)⟩
    rcases h3 y hy with h | ⟨e', he', hy'⟩
    · exact (redraw_mem tp col e y h).imp_right fun h => ⟨e, List.mem_cons_self, h⟩
    · exact Or.inr ⟨e', List.mem_cons_of_mem _ he', hy'⟩

/-- `fillCol_inv` without its last conjunct -/
theorem fillCol_spec (tp : List (Nat × List Nat)) : ∀ (evs : List (List Nat)) (col c : List Nat)
    (rest : List (List Nat)), fillCol tp col evs = some (c, rest) → tp.length = col.length →
    noRe tp c = true ∧ c.length = col.length ∧ (∀ y ∈ c, y ∈ col ∨ ∃ e ∈ evs, y ∈ e) :=
  fun evs col c rest h hl => (fillCol_inv tp col evs c rest h hl).imp_right (And.imp_right And.left)

/-! ### several columns -/

theorem addCol_length (rows : List (List Nat)) (col : List Nat) (h : col.length = rows.length) :
    (addCol rows col).length = rows.length := by
  simp [addCol, h]

theorem addCol_get (rows : List (List Nat)) (col : List Nat) (i : Nat) (h1 : i < rows.length)
    (h2 : i < col.length) (h3 : i < (addCol rows col).length) :
    (addCol rows col)[i] = rows[i] ++ [col[i]] := by
  simp [addCol]

theorem fillCol_rows (rows : List (List Nat)) (e col : List Nat) (es rest : List (List Nat))
    (hlen : e.length = rows.length) (h : fillCol (List.zip (targetsOf rows) rows) e es = some (col, rest)) :
    col.length = rows.length ∧
    (∀ i (hi : i < rows.length) (hc : i < col.length), col[i] ≠ i ∧ col[i] ∉ rows[i]) ∧
    (∀ y ∈ col, ∃ e' ∈ e :: es, y ∈ e') ∧ rest <:+ es := by
  have htp : (List.zip (targetsOf rows) rows).length = e.length := by simp [targetsOf, hlen]
  obtain ⟨hno, hcl, hmem, hsuf⟩ := fillCol_inv _ e es col rest h htp
  refine ⟨hcl.trans hlen, fun i hi hc => ?_, fun y hy => ?_, hsuf⟩
  · simpa [targetsOf] using noRe_spec _ col hno i (by rw [htp, hlen]; exact hi) hc
  · exact (hmem y hy).elim (fun h => ⟨e, List.mem_cons_self, h⟩)
      fun ⟨e', he', hy'⟩ => ⟨e', List.mem_cons_of_mem _ he', hy'⟩

/-- **distinctness and validity of the randomly drawn parents.**
If `k` random columns could be appended to `rows` from the recorded vectors, then row `i` became
`rows[i] ++ new` where the `k` new parents are pairwise distinct, differ from the target `i` and
from every earlier column of that row, and each is one of the drawn values. -/
theorem fillCols_spec : ∀ (k : Nat) (rows : List (List Nat)) (evs : List (List Nat))
    (rows' : List (List Nat)) (rest : List (List Nat)),
    fillCols rows k evs = some (rows', rest) →
    rows'.length = rows.length ∧
    ∀ i (h : i < rows.length) (h' : i < rows'.length), ∃ new : List Nat,
      rows'[i] = rows[i] ++ new ∧ new.length = k ∧ new.Nodup ∧
      (∀ x ∈ new, x ≠ i ∧ x ∉ rows[i]) ∧ (∀ x ∈ new, ∃ e ∈ evs, x ∈ e) := by
  intro k rows evs rows' rest
  fun_induction fillCols rows k evs with
  | case1 rows evs =>
    rintro ⟨⟩
    exact ⟨rfl, fun i h _ => ⟨[], by simp⟩⟩
  | case2 | case3 | case4 => rintro ⟨⟩
  | case5 rows k e es hlen col rest1 hfc ih =>
    intro h
    obtain ⟨hcl, hcol, hmem, hsuf⟩ := fillCol_rows rows e col es rest1 (not_not.mp hlen) hfc
    obtain ⟨ihl, ih⟩ := ih h
    have hal := addCol_length rows col hcl
    refine ⟨ihl.trans hal, fun i hi hi' => ?_⟩
    have hci : i < col.length := hcl ▸ hi
    -- the new parents of row `i`: the entry of this column, then those of the later columns
    obtain ⟨new, e1, e2, e3, e4, e5⟩ := ih i (hal ▸ hi) hi'
    rw [addCol_get rows col i hi hci] at e1 e4
    refine ⟨col[i] :: new, by rw [e1, List.append_assoc, List.singleton_append], by rw [List.length_cons, e2],
      List.nodup_cons.mpr ⟨fun hin => (e4 _ hin).2 (List.mem_append_right _ List.mem_cons_self), e3⟩,
      List.forall_mem_cons.mpr ⟨hcol i hi hci, fun x hx =>
        ⟨(e4 x hx).1, fun hc => (e4 x hx).2 (List.mem_append_left _ hc)⟩⟩,
      List.forall_mem_cons.mpr ⟨hmem _ (List.getElem_mem hci), fun x hx => ?_⟩⟩
    obtain ⟨e', he', hx'⟩ := e5 x hx
    exact ⟨e', List.mem_cons_of_mem _ (hsuf.subset he'), hx'⟩

/-- valid population indices: every drawn value is `< n_pop` ⇒ every new parent is -/
theorem fillCols_valid (k : Nat) (rows evs rows' rest) (nPop : Nat)
    (h : fillCols rows k evs = some (rows', rest)) (hv : ∀ e ∈ evs, ∀ x ∈ e, x < nPop)
    (i : Nat) (hi : i < rows.length) (hi' : i < rows'.length) :
    ∀ x ∈ rows'[i], x ∈ rows[i] ∨ x < nPop := by
  obtain ⟨new, e1, _, _, _, e5⟩ := (fillCols_spec k rows evs rows' rest h).2 i hi hi'
  intro x hx
  rw [e1, List.mem_append] at hx
  exact hx.imp_right fun hx => let ⟨e, he, hxe⟩ := e5 x hx; hv e he x hxe

/-! ### the variants (documented roles)

Each variant is `fillCols` on its own initial rows, so each role is `fillCols_spec` read at these rows. -/

/-- `rand`: all `nPar` parents of target `i` are distinct and differ from `i` -/
theorem rand_spec (rank : Nat → Nat) (n nPar : Nat) (evs rows' rest)
    (h : select .rand rank n nPar evs = some (rows', rest)) (i : Nat) (hi : i < n) (hi' : i < rows'.length) :
    rows'[i].length = nPar ∧ rows'[i].Nodup ∧ i ∉ rows'[i] := by
  obtain ⟨new, e1, e2, e3, e4, _⟩ := (fillCols_spec nPar _ evs rows' rest h).2 i (by simpa using hi) hi'
  rw [List.getElem_replicate, List.nil_append] at e1
  rw [e1]
  exact ⟨e2, e3, fun hc => (e4 i hc).1 rfl⟩

/-- `best`: column 0 is the top-ranked individual (index 0); the drawn parents are distinct,
differ from the target and from the best -/
theorem best_spec (rank : Nat → Nat) (n nPar : Nat) (evs rows' rest)
    (h : select .best rank n nPar evs = some (rows', rest)) (i : Nat) (hi : i < n) (hi' : i < rows'.length) :
    ∃ new, rows'[i] = 0 :: new ∧ new.length = nPar - 1 ∧ new.Nodup ∧ i ∉ new ∧ 0 ∉ new := by
  obtain ⟨new, e1, e2, e3, e4, _⟩ := (fillCols_spec (nPar - 1) _ evs rows' rest h).2 i (by simpa using hi) hi'
  rw [List.getElem_map] at e1 e4
  exact ⟨new, e1, e2, e3, fun hc => (e4 i hc).1 rfl, fun hc => (e4 0 hc).2 List.mem_cons_self⟩

/-- `current-to-best`: `[i, 0, i]` then distinct drawn parents differing from `i` and `0` -/
theorem current_to_best_spec (rank : Nat → Nat) (n nPar : Nat) (evs rows' rest)
    (h : select .currentToBest rank n nPar evs = some (rows', rest)) (i : Nat) (hi : i < n)
    (hi' : i < rows'.length) :
    ∃ new, rows'[i] = i :: 0 :: i :: new ∧ new.length = nPar - 3 ∧ new.Nodup ∧ i ∉ new ∧ 0 ∉ new := by
  obtain ⟨new, e1, e2, e3, e4, _⟩ := (fillCols_spec (nPar - 3) _ evs rows' rest h).2 i (by simpa using hi) hi'
  rw [List.getElem_map, List.getElem_range] at e1 e4
  exact ⟨new, e1, e2, e3, fun hc => (e4 i hc).1 rfl, fun hc => (e4 0 hc).2 (by simp)⟩

/-- `rand-to-best` is `best` with columns 0 and 1 exchanged -/
theorem rand_to_best_spec (rank : Nat → Nat) (n nPar : Nat) (evs rows' rest)
    (h : select .randToBest rank n nPar evs = some (rows', rest)) :
    ∃ rowsB, select .best rank n nPar evs = some (rowsB, rest) ∧ rows' = rowsB.map swap01 := by
  simp only [select] at h ⊢
  split at h
  · cases h
  · rename_i rowsB rest' hb
    cases h
    exact ⟨rowsB, hb, rfl⟩

/-- `current-to-rand`: `[i, r, i]` then distinct drawn parents; `r` and the later ones differ from
the target and from each other -/
theorem current_to_rand_spec (rank : Nat → Nat) (n nPar : Nat) (evs rows' rest)
    (h : select .currentToRand rank n nPar evs = some (rows', rest)) (i : Nat) (hi : i < n)
    (hi' : i < rows'.length) :
    ∃ r new, rows'[i] = i :: r :: i :: new ∧ r ≠ i ∧ new.length = nPar - 3 ∧ new.Nodup ∧
      i ∉ new ∧ r ∉ new := by
  simp only [select] at h
  split at h
  · cases h
  · rename_i rows1 rest1 h1
    -- first one random column `r` beside `[i]`, then the target again, then the remaining columns
    obtain ⟨hl1, hs1⟩ := fillCols_spec 1 _ evs rows1 rest1 h1
    have hi1 : i < rows1.length := by simpa [hl1] using hi
    have hi2 : i < (List.zipWith (fun r i => r ++ [i]) rows1 (List.range n)).length := by simpa [hl1] using hi
    obtain ⟨new1, e1, e2, _, e4, _⟩ := hs1 i (by simpa using hi) hi1
    obtain ⟨r, rfl⟩ := List.length_eq_one_iff.mp e2
    obtain ⟨new, f1, f2, f3, f4, _⟩ := (fillCols_spec (nPar - 3) _ rest1 rows' rest h).2 i hi2 hi'
    have hrow : (List.zipWith (fun r i => r ++ [i]) rows1 (List.range n))[i] = [i, r, i] := by simp [e1]
    rw [hrow] at f1 f4
    exact ⟨r, new, f1, (e4 r List.mem_cons_self).1, f2, f3, fun hc => (f4 i hc).1 rfl,
      fun hc => (f4 r hc).2 (by simp)⟩

/-- `rand` only: every parent index is a valid population index, provided the draws are -/
theorem select_rand_valid (rank : Nat → Nat) (n nPar : Nat) (evs rows' rest)
    (h : select .rand rank n nPar evs = some (rows', rest)) (hv : ∀ e ∈ evs, ∀ x ∈ e, x < n)
    (i : Nat) (hi : i < n) (hi' : i < rows'.length) : ∀ x ∈ rows'[i], x < n := by
  intro x hx
  refine (fillCols_valid nPar _ evs rows' rest n h hv i (by simpa using hi) hi' x hx).resolve_left ?_
  simp

/-! ### ranked: the drawn parents are only reordered -/

theorem interleaveEnds_perm {β : Type} : ∀ (l : List β), (interleaveEnds l).Perm l := by
  intro l
  fun_induction interleaveEnds l with
  | case1 => exact .nil
  | case2 a => exact .refl _
  | case3 a b t ih =>
    -- the last element goes in front of the rearranged rest
    have := (ih.cons ((b :: t).getLast (by simp))).trans (List.perm_append_singleton _ _).symm
    rw [List.dropLast_append_getLast] at this
    exact this.cons a

/-- consecutive pairs `(P[2j-1], P[2j])` are ordered better-or-equal → worse-or-equal -/
def pairsDirected (rank : Nat → Nat) : List Nat → Prop
  | a :: b :: t => rank a ≤ rank b ∧ pairsDirected rank t
  | _ => True

theorem interleaveEnds_directed (rank : Nat → Nat) : ∀ (l : List Nat),
    l.Pairwise (fun a b => rank a ≤ rank b) → pairsDirected rank (interleaveEnds l) := by
  intro l
  fun_induction interleaveEnds l with
  | case1 => exact fun _ => trivial
  | case2 a => exact fun _ => trivial
  | case3 a b t ih =>
    intro h
    obtain ⟨ha, h2⟩ := List.pairwise_cons.mp h
    exact ⟨ha _ (List.getLast_mem _), ih (h2.sublist (List.dropLast_sublist _))⟩

/-- **ranked**: each row is a permutation of the drawn row (so the parents stay valid, distinct
and different from the target); the base vector has the best rank among them; every difference
vector is built from a better-or-equal-ranked minus a worse-or-equal-ranked parent. -/
theorem rankSortRow_spec (rank : Nat → Nat) (row : List Nat) :
    (rankSortRow rank row).Perm row ∧
    (∀ b t, rankSortRow rank row = b :: t → (∀ x ∈ row, rank b ≤ rank x) ∧ pairsDirected rank t) := by
  have hperm := List.mergeSort_perm row (fun a b => decide (rank a ≤ rank b))
  have hsorted := pairwise_mergeSort_of_iff (R := fun a b => rank a ≤ rank b) (fun _ _ => decide_eq_true_iff)
    (fun _ _ _ => Nat.le_trans) (fun _ _ => Nat.le_total _ _) row
  unfold rankSortRow
  generalize row.mergeSort (fun a b => decide (rank a ≤ rank b)) = s at hperm hsorted
  cases s with
  | nil => exact ⟨hperm, fun b t h => by cases h⟩
  | cons s0 t =>
    refine ⟨((interleaveEnds_perm t).cons s0).trans hperm, ?_⟩
    rintro b t' ⟨⟩
    exact ⟨fun x hx => rel_head_of_pairwise (fun a => Nat.le_refl (rank a)) hsorted x (hperm.symm.subset hx),
      interleaveEnds_directed rank t (List.pairwise_cons.mp hsorted).2⟩

/-- `rand_spec` carried through `rankSortRow_spec`: `nPar` distinct parents other than the target, the base vector of
best rank, every difference directed -/
theorem ranked_spec (rank : Nat → Nat) (n nPar : Nat) (evs rows' rest)
    (h : select .ranked rank n nPar evs = some (rows', rest)) (i : Nat) (hi : i < n) (hi' : i < rows'.length) :
    rows'[i].length = nPar ∧ rows'[i].Nodup ∧ i ∉ rows'[i] ∧
    (∀ b t, rows'[i] = b :: t → (∀ x ∈ rows'[i], rank b ≤ rank x) ∧ pairsDirected rank t) := by
  simp only [select] at h
  split at h
  · cases h
  · rename_i rows0 rest0 h0
    cases h
    have hi0 : i < rows0.length := by simpa using hi'
    obtain ⟨a1, a2, a3⟩ := rand_spec rank n nPar evs rows0 rest h0 i hi hi0
    obtain ⟨p, q⟩ := rankSortRow_spec rank rows0[i]
    rw [List.getElem_map]
    exact ⟨p.length_eq.trans a1, p.nodup_iff.mpr a2, fun hc => a3 (p.subset hc), fun b t hbt =>
      (q b t hbt).imp_left fun q1 x hx => q1 x (p.subset hx)⟩

/-- non-vacuity: a concrete selection that finishes on a recorded stream, with one re-draw -/
example : select .rand id 4 3 [[1, 2, 3, 0], [0, 0, 1, 2], [2], [2, 1, 0, 1], [3, 3]] =
    some ([[1, 2, 3], [2, 0, 3], [3, 1, 0], [0, 2, 1]], []) := by decide +kernel

example : interleaveEnds [4, 1, 3, 2] = [4, 2, 1, 3] := by simp [interleaveEnds]

end C09
end Pymoode
