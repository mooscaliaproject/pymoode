/- All proof modules; DESIGN.md §2 says what each is for and how they hang together. -/
import PymoodeProofs.Lib.List
import PymoodeProofs.Lib.Ext
import PymoodeProofs.Lib.Prune
import PymoodeProofs.Lib.StableSort
import PymoodeProofs.Lib.Affine
import PymoodeProofs.C01
import PymoodeProofs.C01b
import PymoodeProofs.C02
import PymoodeProofs.C03
import PymoodeProofs.C04
import PymoodeProofs.C05
import PymoodeProofs.C06
import PymoodeProofs.C07
import PymoodeProofs.C08
import PymoodeProofs.C09
import PymoodeProofs.C10
import PymoodeProofs.C11
import PymoodeProofs.C12
import PymoodeProofs.C13
import PymoodeProofs.C14
import PymoodeProofs.C15
import PymoodeProofs.Metrics.Definitions
import PymoodeProofs.Metrics.MnnPruning
import PymoodeProofs.Pcd.Columns
import PymoodeProofs.Pcd.Simulation
import PymoodeProofs.Pcd.Monotone
import PymoodeProofs.Mnn.Rows
import PymoodeProofs.Mnn.Safety
import PymoodeProofs.Mnn.Simulation
import PymoodeProofs.Greedy
import PymoodeProofs.Witnesses
import PymoodeProofs.C16
import PymoodeProofs.C17
import PymoodeProofs.C18
import PymoodeProofs.C19
import PymoodeProofs.C19b
import PymoodeProofs.C20
