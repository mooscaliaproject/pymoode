import PymoodeModel.Metrics.Diversity
import PymoodeModel.Metrics.KernelF
import PymoodeModel.Metrics.KernelM
import PymoodeModel.Drv.Common
namespace Pymoode.Drv
open Pymoode Pymoode.Proto

def parseMetric (s : String) : Except String Metric :=
  match s with
  | "cd" => .ok .cd
  | "pcd" => .ok .pcd
  | "pruning-cd" => .ok .pcd
  | "callable-cd" => .ok .cd
  | "instance-cd" => .ok .cd
  | "ce" => .ok .ce
  | "mnn" => .ok .mnn
  | "2nn" => .ok .twonn
  | _ => .error s!"unknown metric {s}"

def hasDistanceTies (f : List (List Float)) (nObj : Nat) : Bool :=
  let xs := normalizeCols f nObj
  let n := xs.length
  (List.range n).any fun i =>
    let row := (List.range n).filter (· != i) |>.map fun j =>
      if i < j then sqDist (xs.getD i []) (xs.getD j []) else sqDist (xs.getD j []) (xs.getD i [])
    let s := row.mergeSort fun a b => !(b < a)
    let rec dup : List Float → Bool
      | a :: b :: r => a == b || dup (b :: r)
      | _ => false
    dup s

/-- `crowd <label> <compiled 0/1> <wrapped 0/1> <n_remove> <F>` -/
def compCrowd : P String := do
  let label ← tok
  let compiled ← bool
  let wrapped ← bool
  let nRemove ← int
  let f ← matOf flt
  match parseMetric label with
  | .error e => return s!"err {e}"
  | .ok metric =>
    let nObj := match f with | [] => 0 | r :: _ => r.length
    let neg (x : Float) : Float := -x
    let (d, errs) :=
      if wrapped then crowding Float.log2 neg metric compiled f nObj (Float.ofNat nObj) nRemove
      else rawMetric Float.log2 neg metric compiled f nObj (Float.ofNat nObj) nRemove
    let ties := (metric == .mnn || metric == .twonn) && hasDistanceTies f nObj
    let sites := errs.toList.map fun (e : Oob) => (e.site.replace " " "_") ++ s!"@{e.i},{e.j}"
    return s!"ok {listOut (fun (x : Ext Float) => fOut x.toFloat) d} {bOut ties} {sites.length} {String.intercalate " " sites}"

end Pymoode.Drv

namespace Pymoode.Drv
open Pymoode Pymoode.Proto

def crowdOne (label : String) (metric : Metric) (compiled wrapped : Bool) (nRemove : Int) (f : List (List Float)) : String :=
  let nObj := match f with | [] => 0 | r :: _ => r.length
  let neg (x : Float) : Float := -x
  let (d, errs) :=
    if wrapped then
      if label == "callable-cd" then
        -- a user callable is wrapped with duplicate filtering
        crowdingCallable (fun sub => rawMetric Float.log2 neg .cd compiled sub nObj (Float.ofNat nObj) nRemove) f nObj
      else crowding Float.log2 neg metric compiled f nObj (Float.ofNat nObj) nRemove
    else rawMetric Float.log2 neg metric compiled f nObj (Float.ofNat nObj) nRemove
  let sites := errs.toList.map fun (e : Oob) => (e.site.replace " " "_") ++ s!"@{e.i},{e.j}"
  s!"{listOut (fun (x : Ext Float) => fOut x.toFloat) d} {sites.length} {String.intercalate " " sites}"

/-- executable `MaxOnce` (hypothesis of `C13.pcd_first_pass_safe_partial`) for every objective -/
def maxOnceAll (f : List (List Float)) (nObj : Nat) : Bool :=
  (List.range nObj).all fun m =>
    let col := column f m
    let mx := col.getD (argmaxFirst col) 0.0
    (col.filter fun x => !(x < mx)).length ≤ 1

/-- executable hypotheses of `C13.pcdKernelF_safe`: rectangular front, every maximum attained once,
and no more removals than there are non-extreme points -/
def pcdSafeHyp (f : List (List Float)) (nObj : Nat) (nRemove : Int) : Bool :=
  let n := f.length
  let ex := extremesFirst f nObj
  let nonEx := ((List.range n).filter fun i => !ex.contains i).length
  f.all (fun r => r.length == nObj) && maxOnceAll f nObj &&
    decide ((clampRemove nRemove n nObj - 1).toNat ≤ nonEx)

/-- executable `C13.NoTies` (hypothesis of `C13.mnnKernelF_refines`): in every row of the distance matrix, the point's own
zero included, no two entries are equal -/
def noTiesHyp (f : List (List Float)) (nObj : Nat) : Bool :=
  let xs := normalizeCols f nObj
  let n := f.length
  (List.range n).all fun i =>
    let row := (List.range n).map fun j => dmAt xs i j
    let s := row.mergeSort fun a b => !(b < a)
    let rec dup : List Float → Bool
      | a :: b :: r => !(a < b) || dup (b :: r)
      | _ => false
    !dup s

/-- `crowd3 <label> <n_remove> <F>` → compiled raw | fallback raw | wrapped compiled | wrapped fallback -/
def compCrowd3 : P String := do
  let label ← tok
  let nRemove ← int
  let f ← matOf flt
  match parseMetric label with
  | .error e => return s!"err {e}"
  | .ok metric =>
    let nObj := match f with | [] => 0 | r :: _ => r.length
    let ties := (metric == .mnn || metric == .twonn) && hasDistanceTies f nObj
    -- theorem/interpreter consistency: under MaxOnce the first pass must stay in range
    if metric == .pcd && nRemove ≤ 1 && maxOnceAll f nObj then
      let (_, errs) := rawMetric Float.log2 (fun x => -x) .pcd true f nObj (Float.ofNat nObj) nRemove
      if !errs.isEmpty then
        return "err kernel interpreter reports an out-of-bounds access although every maximum is attained once (contradicts C13.pcd_first_pass_safe_partial)"
    -- the functional kernel (the one the theorems of `PymoodeProofs/Pcd` are about) against the array interpreter:
    -- same values bit for bit, and `ok` exactly when no out-of-bounds access was logged
    if metric == .pcd then
      let (dI, errs) := pcdKernel f nObj (Float.ofNat nObj) nRemove
      let (dF, okF) := pcdKernelF f nObj (Float.ofNat nObj) nRemove
      if okF != errs.isEmpty then
        return s!"err functional pcd kernel ok={okF} but the interpreter logged {errs.size} out-of-bounds accesses"
      if okF && (dF.map fun (x : Ext Float) => x.toFloat.toBits) != (dI.map fun (x : Ext Float) => x.toFloat.toBits) then
        return "err functional pcd kernel and array interpreter disagree on the crowding values"
      -- hypotheses of C13.pcdKernelF_safe ⇒ ok
      if pcdSafeHyp f nObj nRemove && !okF then
        return "err functional pcd kernel leaves its arrays although MaxOnce and the removal budget hold (contradicts C13.pcdKernelF_safe)"
    -- the functional mnn / 2nn kernel (`C13.mnnKernelF_safe`) against the array interpreter: same values bit for bit;
    -- the only out-of-bounds access the interpreter may log is the F4 site mnn.pyx:207, and `ok` must hold
    if metric == .mnn || metric == .twonn then
      let tw := metric == .twonn
      let (dI, errs) := mnnKernel f nObj nRemove tw
      let (dF, okF) := mnnKernelF f nObj nRemove tw
      let other := errs.toList.filter fun (e : Oob) => !(e.site.startsWith "mnn.pyx:207")
      if (dF.map fun (x : Ext Float) => x.toFloat.toBits) != (dI.map fun (x : Ext Float) => x.toFloat.toBits) then
        return "err functional mnn kernel and array interpreter disagree on the crowding values"
      if okF != other.isEmpty then
        return s!"err functional mnn kernel ok={okF} but the interpreter logged {other.length} out-of-bounds accesses besides mnn.pyx:207"
      if (2 ≤ nObj || !tw) && !okF then
        return "err functional mnn kernel uses an unassigned neighbour slot (contradicts C13.mnnKernelF_safe)"
      -- hypotheses of C13.mnnKernelF_refines ⇒ the kernel returns the definition's values
      if (2 ≤ nObj || !tw) && f.all (fun r => r.length == nObj) && noTiesHyp f nObj then
        let dD := mnnFallback f nObj nRemove tw
        if (dF.map fun (x : Ext Float) => x.toFloat.toBits) != (dD.map fun (x : Ext Float) => x.toFloat.toBits) then
          return "err functional mnn kernel differs from the definition although no distance row has ties (contradicts C13.mnnKernelF_refines)"
    return s!"ok {bOut ties} | {crowdOne label metric true false nRemove f} | {crowdOne label metric false false nRemove f} | {crowdOne label metric true true nRemove f} | {crowdOne label metric false true nRemove f}"

end Pymoode.Drv
