/-
The compiled pcd kernel `pymoode/cython/pruning_cd.pyx` once more, this time as a *pure functional
program* (structural recursion and folds over lists, no `while`, no state monad), so that theorems
can be stated about it: `PymoodeProofs/Pcd/Simulation.lean` proves that under the hypotheses whose negations are
the known findings F2 / F3 every index it computes is in range (`ok = true`) and its result equals the
published definition `pcdFallback` for any number of removals.

It is the same algorithm as the array interpreter `pcdKernel` of `Kernel.lean`, statement by
statement: the per-objective sorted index table `I` with its *stale tail* (`I[n:-1, m] = I[n+1:, m]`
leaves the last row in place), the scan `for n in range(N): if I[n, m] == k` that continues on the
column it has just shifted, the lazily updated gap matrix `D`, the `std::set` of items to recompute.
Instead of logging an out-of-bounds access it clears the flag `ok`. The driver runs both on every
record and requires equal values and `ok = (no access logged)`.
-/
import PymoodeModel.Metrics.Kernel
namespace Pymoode

section
variable {α : Type} [Add α] [Sub α] [Mul α] [Div α] [LT α] [DecidableLT α] [OfNat α 0] [OfNat α 1]
  [Inhabited α]

/-- `I[n:-1, m] = I[n+1:, m]` on one column: rows `n … N-2` take the values of rows `n+1 … N-1`,
the last row keeps its value -/
def shiftAt (col : List Nat) (n : Nat) : List Nat :=
  col.take n ++ (col.drop (n + 1) ++ col.drop (col.length - 1))

/-- entry `X[u, m]` -/
def xAt (x : List (List α)) (u m : Nat) : α := (x.getD u []).getD m default

/-- `c_calc_pcd_iter`, innermost loop for one point `i` and one objective `m`:
`for n in range(N): if i == I[n, m]: l = I[n-1, m]; u = I[n+1, m]; D[i, m] = (X[u, m] - X[l, m]) / M` -/
def pcdCell (x : List (List α)) (nObjS : α) (col : List Nat) (m i : Nat) (cur : Ext α × Bool) :
    Ext α × Bool :=
  (List.range col.length).foldl (fun acc n =>
    if col.getD n 0 = i then
      let l := col.getD (n - 1) 0
      let u := col.getD (n + 1) 0
      (Ext.fin ((xAt x u m - xAt x l m) / nObjS),
        acc.2 && decide (0 < n ∧ n + 1 < col.length ∧ l < x.length ∧ u < x.length))
    else acc) cur

/-- `c_calc_pcd_iter` for one point: all objectives -/
def pcdRow (x : List (List α)) (nObjS : α) (cols : List (List Nat)) (i : Nat)
    (cur : List (Ext α) × Bool) : List (Ext α) × Bool :=
  (List.range cols.length).foldl (fun acc m =>
    let r := pcdCell x nObjS (cols.getD m []) m i (acc.1.getD m Ext.top, acc.2)
    (acc.1.set m r.1, r.2)) cur

/-- `c_calc_pcd_iter`: all items to recompute -/
def pcdIter (x : List (List α)) (nObjS : α) (cols : List (List Nat)) (items : List Nat)
    (st : List (List (Ext α)) × Bool) : List (List (Ext α)) × Bool :=
  items.foldl (fun st i =>
    let r := pcdRow x nObjS cols i (st.1.getD i [], st.2)
    (st.1.set i r.1, r.2)) st

/-- `c_calc_d`: `d[i] = 0; for m: d[i] = d[i] + D[i, m]` -/
def pcdCalcD (dmat : List (List (Ext α))) (items : List Nat) (d : List (Ext α)) : List (Ext α) :=
  items.foldl (fun d i => d.set i ((dmat.getD i []).foldl Ext.add (Ext.fin 0))) d

/-- `c_get_calc_items` on one column: the scan over `n = 0 … N-1` with the in-place shift -/
def pcdScanCol (k : Nat) : Nat → Nat → List Nat → List Nat × Bool → List Nat × (List Nat × Bool)
  | 0, _, col, acc => (col, acc)
  | fuel + 1, n, col, acc =>
    if col.getD n 0 = k then
      pcdScanCol k fuel (n + 1) (shiftAt col n)
        (insertSorted (col.getD (n - 1) 0) (insertSorted (col.getD (n + 1) 0) acc.1),
          acc.2 && decide (0 < n ∧ n + 1 < col.length))
    else pcdScanCol k fuel (n + 1) col acc

/-- `c_get_calc_items(I, k, M, N)`: all columns; returns the updated table, the set of neighbours
(ascending, as `std::set` iterates) and the range flag -/
def pcdGetCalcItems (k : Nat) (cols : List (List Nat)) : List (List Nat) × (List Nat × Bool) :=
  cols.foldl (fun acc col =>
    let r := pcdScanCol k col.length 0 col acc.2
    (acc.1 ++ [r.1], r.2)) ([], ([], true))

structure PcdState (α : Type) where
  cols : List (List Nat)
  dmat : List (List (Ext α))
  d : List (Ext α)
  h : List Nat
  ok : Bool

/-- the `while n_removed < n_remove - 1` loop; `fuel` = `n_remove − 1` -/
def pcdLoopF (x : List (List α)) (nObjS : α) (extremes : List Nat) : Nat → PcdState α → PcdState α
  | 0, st => st
  | fuel + 1, st =>
    let k := (dropLast st.d st.h).getD 0
    let h' := st.h.filter (· != k)
    let r := pcdGetCalcItems k st.cols
    let items := r.2.1.filter fun i => !extremes.contains i
    let it := pcdIter x nObjS r.1 items (st.dmat, st.ok && r.2.2)
    let d' := pcdCalcD it.1 items st.d
    pcdLoopF x nObjS extremes fuel { cols := r.1, dmat := it.1, d := d', h := h', ok := it.2 }

/-- state of the kernel on entry to the `while` loop -/
def pcdInitF (f : List (List α)) (nObj : Nat) (nObjS : α) : PcdState α :=
  let n := f.length
  let extremes := extremesFirst f nObj
  let cols := (List.range nObj).map fun c => argsortStable (column f c)
  let x := normalizeCols f nObj
  let items := (List.range n).filter fun i => !extremes.contains i
  let it := pcdIter x nObjS cols items (List.replicate n (List.replicate nObj Ext.top), true)
  { cols := cols, dmat := it.1, d := pcdCalcD it.1 items (List.replicate n Ext.top),
    h := List.range n, ok := it.2 }

/-- `calc_pcd(X, n_remove)` of `pruning_cd.pyx`: crowding values and "every index was in range" -/
def pcdKernelF (f : List (List α)) (nObj : Nat) (nObjS : α) (nRemove : Int) : List (Ext α) × Bool :=
  let nr := clampRemove nRemove f.length nObj
  let st := pcdLoopF (normalizeCols f nObj) nObjS (extremesFirst f nObj) (nr - 1).toNat
    (pcdInitF f nObj nObjS)
  (st.d, st.ok)

end
end Pymoode
