/-
The compiled mnn / 2nn kernel `pymoode/cython/mnn.pyx` as a *pure functional program* (the companion of
`KernelF.lean` for pcd): the nearest-neighbour table `Mnn` (an unassigned slot `-1` is `none`), the removal of
the pruned point from every live row with the left shift, the re-insertion loop of `c_calc_mnn_iter`, the
products of `c_calc_d`. `ok` is cleared when an unassigned slot is used as a column index of `D`
(`D[i, Mnn[i, m]]` with `Mnn[i, m] == -1`) at mnn.pyx:224 or mnn.pyx:243. The read at mnn.pyx:207,
`D[i, Mnn[i, M-1]]` evaluated before `or (Mnn[i, M-1] == -1)`, is known finding F4: its value is never used, and
the model evaluates the condition as `Mnn[i, M-1] == -1 ∨ D[i, j] ≤ D[i, Mnn[i, M-1]]`.
`PymoodeProofs/Mnn/Safety.lean` proves `ok = true` for every front and every number of removals.
The driver runs this model and the array interpreter `mnnKernel` on every record and requires equal values and
`ok ⇔ no access logged other than the F4 site`.
-/
import PymoodeModel.Metrics.Kernel
namespace Pymoode

section
variable {α : Type} [Add α] [Sub α] [Mul α] [Div α] [LT α] [DecidableLT α] [OfNat α 0] [OfNat α 1]
  [Inhabited α]

/-- `D[i, j]`: squared distance of the normalised rows (filled for `i < j` and mirrored) -/
def dmAt (xs : List (List α)) (i j : Nat) : α :=
  if i = j then 0 else
    let a := if i < j then xs.getD i [] else xs.getD j []
    let b := if i < j then xs.getD j [] else xs.getD i []
    sqDist a b

/-- `c_get_calc_items` on one row: `for m in range(M): if Mnn[i, m] == k: Mnn[i, m:-1] = Mnn[i, m+1:]; Mnn[i, M-1] = -1`.
Returns the row and whether `k` was found. -/
def mnnRowRemove (k : Nat) : Nat → Nat → List (Option Nat) → Bool → List (Option Nat) × Bool
  | 0, _, row, hit => (row, hit)
  | fuel + 1, m, row, hit =>
    if row.getD m none = some k then
      mnnRowRemove k fuel (m + 1) ((row.take m ++ row.drop (m + 1)) ++ [none]) true
    else mnnRowRemove k fuel (m + 1) row hit

/-- inner loop of `c_calc_mnn_iter` over `m` for one candidate `j`; `ok` is cleared never here: the comparison
`D[i, j] <= D[i, Mnn[i, m]]` is only reached with `Mnn[i, m] != -1` -/
def mnnInsertAt (dist : Nat → α) (j : Nat) : Nat → Nat → List (Option Nat) → List (Option Nat)
  | 0, _, row => row
  | fuel + 1, m, row =>
    match row.getD m none with
    | none => row.set m (some j)
    | some cur =>
      if cur = j then row
      else if !(dist cur < dist j) then
        -- Mnn[i, m + 1:] = Mnn[i, m:-1] ; Mnn[i, m] = j
        (row.take m ++ [some j]) ++ (row.drop m).dropLast
      else mnnInsertAt dist j fuel (m + 1) row

/-- one candidate `j` for row `i` (`dist c = D[i, c]`) -/
def mnnInsertStep (dist : Nat → α) (i j : Nat) (row : List (Option Nat)) : List (Option Nat) :=
  if j = i then row
  else
    let enter := match row.getLast?.getD none with
      | none => true
      | some last => !(dist last < dist j)
    if enter then mnnInsertAt dist j row.length 0 row else row

/-- `c_calc_mnn_iter` for one row: all live candidates in ascending order -/
def mnnRefill (dist : Nat → α) (i : Nat) (h : List Nat) (row : List (Option Nat)) : List (Option Nat) :=
  h.foldl (fun r j => mnnInsertStep dist i j r) row

/-- `c_calc_d` for one row: the product and whether every slot was assigned -/
def mnnProd (dist : Nat → α) (row : List (Option Nat)) : α × Bool :=
  row.foldl (fun acc nb => match nb with
    | some c => (acc.1 * dist c, acc.2)
    | none => (acc.1, false)) (1, true)

structure MnnState (α : Type) where
  mnn : List (List (Option Nat))
  d : List (Ext α)
  h : List Nat
  ok : Bool

/-- one pass of the `while` loop -/
def mnnStepF (xs : List (List α)) (extremes : List Nat) (st : MnnState α) : MnnState α :=
  let k := (dropLast st.d st.h).getD 0
  let h' := st.h.filter (· != k)
  -- c_get_calc_items: every live row that lists k
  let upd := h'.foldl (fun (acc : List (List (Option Nat)) × List Nat) i =>
      let row := acc.1.getD i []
      let r := mnnRowRemove k row.length 0 row false
      if r.2 then (acc.1.set i r.1, insertSorted i acc.2) else acc) (st.mnn, [])
  let items := upd.2.filter fun i => !extremes.contains i
  -- c_calc_mnn_iter
  let mnn' := items.foldl (fun t i => t.set i (mnnRefill (dmAt xs i) i h' (t.getD i []))) upd.1
  -- c_calc_d
  let res := items.foldl (fun (acc : List (Ext α) × Bool) i =>
      let p := mnnProd (dmAt xs i) (mnn'.getD i [])
      (acc.1.set i (Ext.fin p.1), acc.2 && p.2)) (st.d, st.ok)
  { mnn := mnn', d := res.1, h := h', ok := res.2 }

def mnnLoopF (xs : List (List α)) (extremes : List Nat) : Nat → MnnState α → MnnState α
  | 0, st => st
  | fuel + 1, st => mnnLoopF xs extremes fuel (mnnStepF xs extremes st)

/-- state on entry to the loop; `mNb` = number of neighbours (`M`, or 2 for 2nn) -/
def mnnInitF (f : List (List α)) (nObj mNb : Nat) : MnnState α :=
  let n := f.length
  let extremes := extremesFirst f nObj
  let xs := normalizeCols f nObj
  -- np.argpartition(D, range(1, M+1), axis=1)[:, 1:M+1] (stable order on ties)
  let mnn : List (List (Option Nat)) := (List.range n).map fun i =>
    let row := (List.range n).map fun j => dmAt xs i j
    ((argsortStable row).drop 1).take mNb |>.map some
  let items := (List.range n).filter fun i => !extremes.contains i
  let res := items.foldl (fun (acc : List (Ext α) × Bool) i =>
      let p := mnnProd (dmAt xs i) (mnn.getD i [])
      (acc.1.set i (Ext.fin p.1), acc.2 && p.2)) (List.replicate n Ext.top, true)
  { mnn := mnn, d := res.1, h := List.range n, ok := res.2 }

/-- `calc_mnn(X, n_remove)` / `calc_2nn(X, n_remove)` of `mnn.pyx` -/
def mnnKernelF (f : List (List α)) (nObj : Nat) (nRemove : Int) (twonn : Bool) : List (Ext α) × Bool :=
  let n := f.length
  let nr := clampRemove nRemove n nObj
  let mNb := if twonn then 2 else nObj
  if n ≤ mNb then (f.map fun _ => Ext.top, true)
  else
    let st := mnnLoopF (normalizeCols f nObj) (extremesFirst f nObj) (nr - 1).toNat (mnnInitF f nObj mNb)
    (st.d, st.ok)

end
end Pymoode
